import OpenHTF.Proofs.C04
import OpenHTF.Proofs.Lemmas.Exec
/-
C03 — PhaseGroup teardown always runs once the group was entered (sequential part: every nesting,
every behaviour of main). The single-abort part is in Proofs/C04 (interleaving model, theorems c03_*).
-/
namespace OpenHTF.Exec

/-- the part of a group's execution that decides whether it is "entered" -/
def setupOf (cfg : Cfg) (s : List Node) (sub : Option Nat) (td : Bool) (st : St) : St × Ret :=
  if td then execTd cfg s sub st else execAb cfg s sub st
def mainOf (cfg : Cfg) (m : List Node) (sub : Option Nat) (td : Bool) (st : St) : St × Ret :=
  if td then execTd cfg m sub st else execAb cfg m sub st

/-- the enclosing subtest (if any) has failed and we are not inside a teardown: nodes are skipped -/
def skipping (sub : Option Nat) (td : Bool) (st : St) : Bool := !td && sub.isSome && st.subFail

/-- If every setup node completed without a terminal result, and the enclosing subtest had not failed
    by then, the group's result is: main, then the WHOLE teardown sequence run as a teardown on the
    state main left behind — no matter how main ended (exception, STOP, timeout, failed subtest, failure
    inside a nested group: all of that is `r2`, which is not inspected). The return value is the more
    critical of main's and teardown's. -/
theorem c03_teardown_runs_after_main_however_it_ended (cfg : Cfg) (s m t : List Node) (sub : Option Nat) (td : Bool) (st : St)
    (hsetup : (setupOf cfg s sub td st).2 = .cont)
    (hnot0 : skipping sub td st = false) (hnot1 : skipping sub td (setupOf cfg s sub td st).1 = false) :
    let r2 := mainOf cfg m sub td (setupOf cfg s sub td st).1
    let r3 := execTd cfg t sub r2.1
    exec cfg (.group s m t) sub td st = (r3.1, r2.2.max r3.2) := by
  -- the conditions of the group equation, as the hypotheses decide them
  have h1 : (execL cfg td s sub st).2 = .cont := hsetup
  have h2 : (!td && sub.isSome && st.subFail) = false := hnot0
  have h3 : (!td && sub.isSome && (execL cfg td s sub st).1.subFail) = false := hnot1
  simp only [exec_group, h1, h2, h3]
  rfl

/-- every node of a teardown sequence is executed exactly once, in order, whatever the earlier ones
    returned: the sequence is a fold over ALL its nodes -/
theorem c03_every_teardown_node_once_in_order (cfg : Cfg) (sub : Option Nat) (ns : List Node) (st : St) :
    execTd cfg ns sub st =
      ns.foldl (fun (acc : St × Ret) n => ((exec cfg n sub true acc.1).1, acc.2.max (exec cfg n sub true acc.1).2)) (st, .cont) := by
  -- from any return value `a` of the nodes before
  suffices key : ∀ a : Ret,
      ns.foldl (fun (acc : St × Ret) n => ((exec cfg n sub true acc.1).1, acc.2.max (exec cfg n sub true acc.1).2)) (st, a) =
      ((execTd cfg ns sub st).1, a.max (execTd cfg ns sub st).2) by rw [key, Ret.cont_max]
  induction ns generalizing st with
  | nil => intro a; rw [execTd, List.foldl_nil, Ret.max_cont]
  | cons n ns ih => intro a; simp only [List.foldl_cons, ih, execTd, Ret.max_assoc]

/-- a terminal result inside the teardown propagates outward — after the remaining teardown nodes ran
    (`c03_every_teardown_node_once_in_order`): the teardown sequence is terminal iff one of its nodes was -/
theorem c03_teardown_terminal_propagates (cfg : Cfg) (sub : Option Nat) :
    ∀ (ns : List Node) (st : St), (execTd cfg ns sub st).2 = .term ↔
      ∃ pre n post, ns = pre ++ n :: post ∧ (exec cfg n sub true (execTd cfg pre sub st).1).2 = .term
  | ns, st => by
    constructor
    · induction ns generalizing st with
      | nil => intro h; cases h
      | cons n ns ih =>
        simp only [execTd]
        intro h
        rcases Ret.max_eq_term h with h | h
        · exact ⟨[], n, ns, rfl, h⟩
        · obtain ⟨pre, x, post, rfl, hx⟩ := ih _ h
          exact ⟨n :: pre, x, post, rfl, by simpa only [execTd] using hx⟩
    · rintro ⟨pre, n, post, rfl, h⟩
      simp only [execTd_append, execTd, h]
      cases (execTd cfg pre sub st).2 <;> rfl

/-- if setup does not complete, neither main nor teardown of that group runs: the group's effect is
    exactly the setup's -/
theorem c03_no_entry_no_teardown (cfg : Cfg) (s m t : List Node) (sub : Option Nat) (td : Bool) (st : St)
    (hsetup : (setupOf cfg s sub td st).2 = .term) :
    exec cfg (.group s m t) sub td st = setupOf cfg s sub td st := by
  have h : (execL cfg td s sub st).2 = .term := hsetup
  simp only [exec_group, h]
  rfl

/-- the teardown comes before anything following the group: the successors of a group in a sequence
    start from the state the teardown left, and only if the group was not terminal -/
theorem c03_before_successors (cfg : Cfg) (s m t : List Node) (rest : List Node) (sub : Option Nat) (st : St) :
    execAb cfg (.group s m t :: rest) sub st =
      if (exec cfg (.group s m t) sub false st).2 != .cont then exec cfg (.group s m t) sub false st
      else execAb cfg rest sub (exec cfg (.group s m t) sub false st).1 := by
  simp [execAb]

/-- and in the call log: whatever the teardown does is appended after everything main (and setup) did -/
theorem c03_teardown_events_after_main (cfg : Cfg) (s m t : List Node) (sub : Option Nat) (td : Bool) (st : St)
    (hsetup : (setupOf cfg s sub td st).2 = .cont)
    (hnot0 : skipping sub td st = false) (hnot1 : skipping sub td (setupOf cfg s sub td st).1 = false) :
    ∃ tdEvents, (exec cfg (.group s m t) sub td st).1.events =
      (mainOf cfg m sub td (setupOf cfg s sub td st).1).1.events ++ tdEvents ∧
      tdEvents = ((execTd cfg t sub (mainOf cfg m sub td (setupOf cfg s sub td st).1).1).1.events).drop
        (mainOf cfg m sub td (setupOf cfg s sub td st).1).1.events.length := by
  rw [c03_teardown_runs_after_main_however_it_ended cfg s m t sub td st hsetup hnot0 hnot1]
  obtain ⟨es, h, _⟩ := (execTd_rel (progress_compositional cfg) t sub (mainOf cfg m sub td (setupOf cfg s sub td st).1).1).1.ext
  exact ⟨es, h, by simp [h]⟩

/-- non-vacuity: main raises, both teardown phases still run, in order, after main, and before the
    phase that follows the group would (it does not run: the exception is terminal) -/
example :
    let ph : Nat → Raw → Node := fun i r => .phase { id := i, beh := fun _ => { raw := r } }
    let st := (execAb {} [.group [ph 1 (.ret .cont)] [ph 2 (.exc false), ph 3 (.ret .cont)] [ph 4 (.ret .stop), ph 5 (.ret .cont)],
                          ph 6 (.ret .cont)] none {}).1
    st.bodyCalls = [1, 2, 4, 5] ∧ st.last = some (.exc false) := by decide +kernel

end OpenHTF.Exec
