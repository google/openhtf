import OpenHTF.Model.Logs
import OpenHTF.Model.HandlerList
import OpenHTF.Proofs.Lemmas.Lts
/-
C19 — log capture: attribution by logger name, exactly-once / order / pairing over all histories of
start / log / finish, immutability of a finished record, MAC redaction.
-/
namespace OpenHTF.Logs

theorem recordUid_runLogger (uid suffix : List Char) (hdot : '.' ∉ uid) :
    recordUid (runLogger uid suffix) = some uid := by
  have hu : ∀ x ∈ uid, (x != '.') = true := fun x hx => bne_iff_ne.2 fun e => hdot (e ▸ hx)
  rw [recordUid, runLogger, List.append_assoc, if_pos (List.isPrefixOf_iff_prefix.2 (List.prefix_append ..)),
    List.drop_left, List.takeWhile_append_of_pos hu]
  split <;> simp

/-- C19: a run's handler keeps every message of that run's own loggers (test.logger, phase, plug and
    get_record_logger_for loggers: any child of `openhtf.test_record.<uid>`) -/
theorem c19_accepts_own_loggers (uid suffix : List Char) (hdot : '.' ∉ uid) :
    accepts uid (runLogger uid suffix) = true := by
  rw [accepts, recordUid_runLogger uid suffix hdot]
  exact beq_self_eq_true uid

/-- C19: ... and drops every message of another run's record loggers, whatever the uids look like
    (one a prefix of the other included) -/
theorem c19_rejects_other_runs_loggers (uid other suffix : List Char) (hdot : '.' ∉ other) (hne : other ≠ uid) :
    accepts uid (runLogger other suffix) = false := by
  rw [accepts, recordUid_runLogger other suffix hdot]
  exact beq_false_of_ne hne

/-- C19: framework messages (any logger that is not a record logger) are kept by every live run -/
theorem c19_framework_messages_kept (uid name : List Char) (h : recordPrefix.isPrefixOf name = false) :
    accepts uid name = true := by
  rw [accepts, recordUid, h]; rfl

/-- `callHandlers`, record by record: the message is appended once per registered handler of that record's run, if
    the run's filter accepts the logger name -/
theorem log_records (hs : List (List Char)) (rs : List (List Char × List Entry)) (name : List Char) (msg : Nat) :
    hs.foldl (fun rs h => if accepts h name then appendTo rs h ⟨name, msg⟩ else rs) rs =
      rs.map fun r => (r.1, r.2 ++ List.replicate (if accepts r.1 name then hs.count r.1 else 0) ⟨name, msg⟩) := by
  induction hs generalizing rs with
  | nil => simp
  | cons h hs ih =>
    rw [List.foldl_cons, ih]
    by_cases hacc : accepts h name
    · rw [if_pos hacc, appendTo, List.map_map]
      refine List.map_congr_left fun r _ => ?_
      by_cases hr : r.1 = h
      · subst hr; simp [hacc, List.replicate_succ]
      · simp [hr, List.count_cons_of_ne (Ne.symm hr)]
    · rw [if_neg hacc]
      refine List.map_congr_left fun r _ => ?_
      by_cases hr : r.1 = h
      · subst hr; simp [hacc]
      · simp [List.count_cons_of_ne (Ne.symm hr)]

theorem findRec_map (f : List Char → List Entry) (rs : List (List Char × List Entry)) (uid : List Char)
    (hin : ∃ r ∈ rs, r.1 = uid) : findRec (rs.map fun r => (r.1, r.2 ++ f r.1)) uid = findRec rs uid ++ f uid := by
  induction rs with
  | nil => obtain ⟨r, hr, _⟩ := hin; cases hr
  | cons r rs ih =>
    simp only [List.map_cons, findRec]
    by_cases hr : r.1 = uid
    · rw [if_pos (beq_iff_eq.2 hr), if_pos (beq_iff_eq.2 hr), hr]
    · rw [if_neg (mt beq_iff_eq.1 hr), if_neg (mt beq_iff_eq.1 hr)]
      obtain ⟨x, hx, hxu⟩ := hin
      exact ih ⟨x, (List.mem_cons.1 hx).resolve_left fun e => hr (e ▸ hxu), hxu⟩

def started (s : S) (uid : List Char) : Prop := ∃ r ∈ s.records, r.1 = uid

theorem recordOf_log (s : S) (uid name : List Char) (msg : Nat) (hst : started s uid) :
    recordOf (step s (.log name msg)) uid =
      recordOf s uid ++ List.replicate (if accepts uid name then s.handlers.count uid else 0) ⟨name, msg⟩ := by
  simp only [recordOf, step]
  rw [log_records, findRec_map (fun u => .replicate (if accepts u name then s.handlers.count u else 0) ⟨name, msg⟩) _ _ hst]

/-- C19 exactly once: a message is appended to the record of a live run exactly once if that run's filter
    accepts its logger name, and not at all otherwise; nothing else in that record changes -/
theorem c19_exactly_once (s : S) (uid name : List Char) (msg : Nat) (hst : started s uid)
    (hlive : s.handlers.count uid = 1) :
    recordOf (step s (.log name msg)) uid =
      recordOf s uid ++ (if accepts uid name then [⟨name, msg⟩] else []) := by
  rw [recordOf_log s uid name msg hst, hlive]
  split <;> rfl

theorem started_log (s : S) (uid name : List Char) (msg : Nat) (h : started s uid) :
    started (step s (.log name msg)) uid := by
  simp only [started, step]
  rw [log_records]
  obtain ⟨r, hr, hu⟩ := h
  exact ⟨_, List.mem_map_of_mem hr, hu⟩

/-- C19 emission order: while a run is live (exactly one handler of it is registered), any sequence of
    messages logged by any loggers leaves in its record exactly the accepted ones, each once, in emission
    order, after what was there before -/
theorem c19_emission_order (msgs : List (List Char × Nat)) (s : S) (uid : List Char) (hst : started s uid)
    (hlive : s.handlers.count uid = 1) :
    recordOf (run s (msgs.map (fun p => Op.log p.1 p.2))) uid =
      recordOf s uid ++ (msgs.filter (fun p => accepts uid p.1)).map (fun p => ⟨p.1, p.2⟩) := by
  induction msgs generalizing s with
  | nil => simp [run]
  | cons m ms ih =>
    have := ih (step s (.log m.1 m.2)) (started_log s uid m.1 m.2 hst) hlive
    simp only [run, List.map_cons, List.foldl_cons] at this ⊢
    rw [this, c19_exactly_once s uid m.1 m.2 hst hlive]
    by_cases hacc : accepts uid m.1 <;> simp [hacc]

/-- C19: once the run has ended (its handler is gone) nothing logged later alters its record -/
theorem c19_finished_record_immutable (s : S) (uid name : List Char) (msg : Nat) (hst : started s uid)
    (hgone : uid ∉ s.handlers) : recordOf (step s (.log name msg)) uid = recordOf s uid := by
  rw [recordOf_log s uid name msg hst, List.count_eq_zero_of_not_mem hgone]
  simp

/-- well-formed histories: a uid is started at most once -/
def freshStarts : List Op → List (List Char) → Prop
  | [], _ => True
  | .start uid :: ops, seen => uid ∉ seen ∧ freshStarts ops (uid :: seen)
  | _ :: ops, seen => freshStarts ops seen

/-- the handlers of a well-formed history are duplicate-free, so `finish` removes the run's only handler -/
theorem handlers_nodup : ∀ (ops : List Op) (s : S) (seen : List (List Char)), freshStarts ops seen →
    s.handlers.Nodup → (∀ h ∈ s.handlers, h ∈ seen) → (run s ops).handlers.Nodup
  | [], _, _, _, hn, _ => hn
  | .start uid :: ops, s, seen, ⟨hfresh, hrest⟩, hn, hsub => by
    -- the new handler is not among the old ones, which have all been seen
    refine handlers_nodup ops (step s (.start uid)) (uid :: seen) hrest
      (List.nodup_append.2 ⟨hn, List.pairwise_singleton _ uid, fun a ha b hb e => ?_⟩) fun h hh => ?_
    · exact hfresh (List.mem_singleton.1 hb ▸ e ▸ hsub a ha)
    · rcases List.mem_append.1 hh with hh | hh
      · exact List.mem_cons_of_mem _ (hsub h hh)
      · exact List.mem_singleton.1 hh ▸ List.mem_cons_self
  | .log name msg :: ops, s, seen, hf, hn, hsub => handlers_nodup ops (step s (.log name msg)) seen hf hn hsub
  | .finish uid :: ops, s, seen, hf, hn, hsub =>
    handlers_nodup ops (step s (.finish uid)) seen hf (hn.erase uid) fun h hh => hsub h (List.mem_of_mem_erase hh)

/-- C19 pairing: after the run has ended no handler of it remains (histories in which every uid is started once) -/
theorem c19_no_handler_after_finish (ops : List Op) (uid : List Char) (hf : freshStarts ops []) :
    uid ∉ (step (run {} ops) (.finish uid)).handlers := by
  exact (handlers_nodup ops {} [] hf (by simp) (by simp)).not_mem_erase

/-- the number of handlers is the number of runs started and not finished: nothing accumulates -/
theorem c19_handlers_do_not_accumulate (s : S) (uid : List Char) (hin : uid ∈ s.handlers) :
    (step s (.finish uid)).handlers.length + 1 = s.handlers.length := by
  simp only [step]
  rw [List.length_erase_of_mem hin]
  have : 0 < s.handlers.length := List.length_pos_of_mem hin
  omega

/-- C19: a colon-separated MAC address (any hex digits, any case) followed by the end of the message or by a
    character that is neither a word character nor a colon matches; only the three-byte vendor prefix is kept -/
theorem c19_mac_matched (a b c d e f g h i j k l : Char) (rest : List Char)
    (hx : isHex a ∧ isHex b ∧ isHex c ∧ isHex d ∧ isHex e ∧ isHex f ∧ isHex g ∧ isHex h ∧ isHex i ∧ isHex j ∧ isHex k ∧ isHex l)
    (hrest : rest = [] ∨ ∃ x xs, rest = x :: xs ∧ isWord x = false ∧ x ≠ ':') :
    matchMac ([a, b, ':', c, d, ':', e, f, ':', g, h, ':', i, j, ':', k, l] ++ rest) =
      some ([a, b, ':', c, d, ':', e, f, ':'], rest) := by
  rcases hrest with rfl | ⟨x, xs, rfl, hw, hc⟩ <;>
    simp [matchMac, vendorPrefix, octetColon, lastOctet, *]

/-- ... and the replacement keeps exactly that prefix, drops the rest and goes on after the match -/
theorem c19_redact_keeps_prefix_drops_rest (fuel : Nat) (c : Char) (cs v rest : List Char)
    (hm : matchMac (c :: cs) = some (v, rest)) :
    redact (fuel + 1) (c :: cs) = v ++ redacted ++ redact fuel rest := by
  simp [redact, hm]

example : String.ofList (redactMsg "dut aa:bb:cc:dd:ee:ff ok".toList) = "dut aa:bb:cc:<REDACTED> ok" := by decide +kernel
example : String.ofList (redactMsg "AA:BB:CC:DD:EE:FF".toList) = "AA:BB:CC:<REDACTED>" := by decide +kernel
example : String.ofList (redactMsg "short aa:bb:cc:dd:ee".toList) = "short aa:bb:cc:dd:ee" := by decide +kernel

end OpenHTF.Logs

namespace OpenHTF.HandlerList

structure Inv (s : S) : Prop where
  holder : ∀ t, s.lock = some t ↔ (s.pc t = 1 ∨ s.pc t = 2)
  pcs : ∀ t, s.pc t = 0 ∨ s.pc t = 1 ∨ s.pc t = 2
  registered : ∀ h, h ∈ s.live → h ∈ s.cur
  copy : ∀ t, s.pc t = 2 → s.snap t = s.cur.filter (· != s.victim t)

theorem inv_init : Inv {} := by
  constructor <;> simp

theorem inv_step (s s' : S) (a : Act) (hl : isLocked a = true)
    (h : Inv s) (hs : step s a = some s') : Inv s' := by
  obtain ⟨h1, h2, h3, h4⟩ := h
  -- the four fields as one goal about a number `j` (a thread in three of them, a handler in `registered`), with the
  -- quantified fields instantiated at `j` and at the thread `t` that moves: one `grind` call per action
  suffices h : ∀ j, _ ∧ _ ∧ _ ∧ _ from ⟨fun j => (h j).1, fun j => (h j).2.1, fun j => (h j).2.2.1, fun j => (h j).2.2.2⟩
  intro j
  have j1 := h1 j; have j2 := h2 j
  cases a with
  | addUnlocked => cases hl
  | acquire t | store t | release t | add t _ | filter t _ =>
    obtain ⟨hc, rfl⟩ := Lts.guarded hs
    have t1 := h1 t; have t4 := h4 t
    clear h1 h2 h4
    simp only [updP, updL]
    grind

theorem reach_inv {as : List Act} {s : S} (hl : locked as = true) (hr : run {} as = some s) : Inv s :=
  Lts.run_induction_on step run (fun _ => rfl) (fun s a as => by rw [run]; cases step s a <;> rfl) (isLocked · = true) Inv
    inv_step as {} s (List.all_eq_true.mp hl) inv_init hr

/-- C19: under every interleaving of tests that start (register their record handler) and tests that end (remove
    theirs), a handler that has been registered and not removed is on the logger's handler list: a starting run can
    never lose its handler to another run's removal -/
theorem c19_registered_handler_stays_registered (as : List Act) (s : S) (hl : locked as = true)
    (hr : run {} as = some s) (h : Nat) (hh : h ∈ s.live) : h ∈ s.cur :=
  (reach_inv hl hr).registered h hh

/-- registering without the lock is not safe: a handler appended between another run's filtered copy and its store is
    dropped -/
theorem unlocked_registration_can_lose_the_handler :
    ∃ s, run {} [.acquire 0, .add 0 1, .filter 0 1, .addUnlocked 2, .store 0, .release 0] = some s ∧
      2 ∈ s.live ∧ 2 ∉ s.cur := by
  refine ⟨_, rfl, ?_⟩
  decide

example : ∃ s, run {} [.acquire 0, .add 0 1, .release 0, .acquire 1, .add 1 2, .release 1, .acquire 0, .filter 0 1, .store 0,
    .release 0] = some s ∧ s.cur = [2] ∧ s.live = [2] := by
  refine ⟨_, rfl, ?_⟩
  decide

end OpenHTF.HandlerList
