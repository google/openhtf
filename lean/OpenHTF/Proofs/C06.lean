import OpenHTF.Model.Meas
/-
C06 — measurement outcome = all validators on the recorded (transformed) value. For every declaration
(any transform, any validator set), every assignment history and every value.
-/
namespace OpenHTF.Meas

/-- Python `all(...)` with early exit: every validator accepts, and the marginal flags are or-ed; or the first that
    does not rejects or raises -/
theorem evalAll_spec (vs : List Verdict) :
    if vs.all isAccept then evalAll vs = some (true, vs.any (· == .accept true))
    else evalAll vs = none ∨ evalAll vs = some (false, false) := by
  induction vs with
  | nil => rfl
  | cons v vs ih =>
    cases v with
    | reject => exact .inr rfl
    | raises => exact .inl rfl
    | accept mm =>
      simp only [List.all_cons, isAccept, Bool.true_and, evalAll]
      split at ih
      · cases mm <;> simp [*]
      · rcases ih with e | e <;> simp [*]

/-- `validate()` in closed form -/
theorem validateScalar_eq (d : Decl) (m : M) (x : Val) :
    (validateScalar d m x).1 = { m with outcome := (Spec.scalarOutcome d x).1, marginal := (Spec.scalarOutcome d x).2 } ∧
    ((d.verdicts x).all isAccept = true → (validateScalar d m x).2 = .ok) := by
  have := evalAll_spec (d.verdicts x)
  simp only [validateScalar, Spec.scalarOutcome]
  split at this
  · simp [*]
  · rcases this with e | e <;> simp [*]

theorem validateScalar_res (d : Decl) (m : M) (x : Val) :
    (validateScalar d m x).2 = .ok ∨ (validateScalar d m x).2 = .raised := by
  unfold validateScalar
  split <;> simp

/-- validation of a scalar: outcome PASS exactly when every validator accepts the value, else FAIL;
    marginal exactly when PASS and some validator deems the value marginal; a raising validator (reached
    before any rejection) marks the measurement FAIL and surfaces to the caller -/
theorem c06_outcome_iff_all_validators (d : Decl) (m : M) (x : Val) :
    let r := validateScalar d m x
    (r.1.outcome = .pass ↔ (d.verdicts x).all isAccept = true) ∧
    (r.1.outcome = .pass ∨ r.1.outcome = .fail) ∧
    (r.1.marginal = true ↔ (r.1.outcome = .pass ∧ (d.verdicts x).any (· == .accept true) = true)) ∧
    (r.2 = .raised → r.1.outcome = .fail) ∧
    r.1.stored = m.stored ∧ r.1.entries = m.entries := by
  obtain ⟨h1, h2⟩ := validateScalar_eq d m x
  simp only [h1, Spec.scalarOutcome]
  split <;> simp [*]

def WF (s : St) : Prop := s.ms.length = s.decls.length

theorem getM_setM_same (s : St) (i : Nat) (m : M) (h : i < s.ms.length) : getM (setM s i m) i = m := by
  simp [getM, setM, List.getD_eq_getElem?_getD, h]
theorem getM_setM_other (s : St) (i j : Nat) (m : M) (h : j ≠ i) : getM (setM s i m) j = getM s j := by
  simp [getM, setM, List.getD_eq_getElem?_getD, h.symm]

theorem step_set_cases (s : St) (i : Nat) (v : Val) :
    (step s (.set i v)).1 = s ∨ ∃ d x, s.decls[i]? = some d ∧ d.arity = none ∧ d.transform v = some x ∧
      step s (.set i v) = (setM s i (validateScalar d { getM s i with stored := some x } x).1,
        (validateScalar d { getM s i with stored := some x } x).2) := by
  simp only [step]
  cases hd : s.decls[i]? with
  | none => exact .inl rfl
  | some d =>
    dsimp only
    cases hsc : d.arity with
    | some n => exact .inl rfl
    | none =>
      cases hx : d.transform v with
      | none => exact .inl rfl
      | some x => exact .inr ⟨d, x, rfl, hsc, hx, rfl⟩

theorem step_setDim_cases (s : St) (i : Nat) (c : Coord) (v : Val) :
    (step s (.setDim i c v)).1 = s ∨ ∃ d x, s.decls[i]? = some d ∧ d.arity = some c.length ∧ d.transform v = some x ∧
      step s (.setDim i c v) =
        (setM s i { getM s i with entries := upsert c x (getM s i).entries, outcome := .partiallySet }, .ok) := by
  simp only [step]
  cases hd : s.decls[i]? with
  | none => exact .inl rfl
  | some d =>
    dsimp only
    cases hsc : d.arity with
    | none => exact .inl rfl
    | some n =>
      by_cases hn : c.length = n
      · subst hn
        cases hx : d.transform v with
        | none => simp
        | some x => exact .inr ⟨d, x, rfl, hsc, hx, by simp⟩
      · simp [hn]

theorem go_length (ds : List Decl) (ms : List M) : (step.go ds ms).1.length = ms.length := by
  fun_induction step.go ds ms with
  | case1 _ _ _ _ _ _ ih => simpa using ih      -- a declaration and its measurement: validated if PARTIALLY_SET, then the rest
  | case2 => rfl                                -- one of the lists has run out

theorem go_res (ds : List Decl) (ms : List M) : (step.go ds ms).2 = .ok ∨ (step.go ds ms).2 = .raised := by
  fun_induction step.go ds ms with
  | case1 _ _ _ _ _ _ ih =>      -- the first raise is reported, else what the rest reports
    split
    · exact .inr rfl
    · exact ih
  | case2 => exact .inl rfl

theorem step_frame (s : St) (o : Op) : (step s o).1.decls = s.decls ∧ (step s o).1.ms.length = s.ms.length := by
  cases o with
  | setUndeclared => exact ⟨rfl, rfl⟩
  | set i v => rcases step_set_cases s i v with e | ⟨_, _, _, _, _, e⟩ <;> simp [e, setM]
  | setDim i c v => rcases step_setDim_cases s i c v with e | ⟨_, _, _, _, _, e⟩ <;> simp [e, setM]
  | phaseEnd => exact ⟨rfl, go_length _ _⟩

theorem step_wf (s : St) (o : Op) (h : WF s) : WF (step s o).1 := by
  unfold WF
  rw [(step_frame s o).1, (step_frame s o).2]
  exact h

theorem step_res (s : St) (o : Op) : (step s o).1 = s ∨ (step s o).2 = .ok ∨ (step s o).2 = .raised := by
  cases o with
  | setUndeclared => exact .inl rfl
  | phaseEnd => exact .inr (go_res ..)
  | set i v =>
    rcases step_set_cases s i v with e | ⟨_, _, _, _, _, e⟩
    · exact .inl e
    · exact .inr (e ▸ validateScalar_res ..)
  | setDim i c v =>
    rcases step_setDim_cases s i c v with e | ⟨_, _, _, _, _, e⟩
    · exact .inl e
    · exact .inr (.inl (e ▸ rfl))

/-- an assignment to an undeclared name, to a dimensioned measurement without coordinates, to a scalar
    with coordinates, with the wrong number of coordinates, or whose transform raises, is rejected and
    changes nothing -/
theorem c06_rejected_ops_change_nothing (s : St) (o : Op)
    (h : (step s o).2 = .notAMeasurement ∨ (step s o).2 = .invalidDimensions ∨
         (∃ i v d, o = .set i v ∧ s.decls[i]? = some d ∧ d.arity = none ∧ d.transform v = none) ∨
         (∃ i c v d, o = .setDim i c v ∧ s.decls[i]? = some d ∧ d.transform v = none ∧ d.arity = some c.length)) :
    (step s o).1 = s := by
  rcases h with h | h | ⟨i, v, d, rfl, hd, ha, ht⟩ | ⟨i, c, v, d, rfl, hd, ht, ha⟩
  iterate 2
    rcases step_res s o with e | e | e
    · exact e
    · cases h.symm.trans e
    · cases h.symm.trans e
  -- a raising transform: the step computes
  · simp [step, hd, ha, ht]
  · simp [step, hd, ha, ht]

/-- after a successful scalar assignment the recorded value is the transform of the assigned value and
    outcome/marginal are the validators' verdict on THAT recorded value; other measurements are untouched -/
theorem c06_scalar_assignment (s : St) (hwf : WF s) (i : Nat) (v x : Val) (d : Decl)
    (hd : s.decls[i]? = some d) (hsc : d.arity = none) (hx : d.transform v = some x) :
    let s' := (step s (.set i v)).1
    (getM s' i).stored = some x ∧
    ((getM s' i).outcome, (getM s' i).marginal) = Spec.scalarOutcome d x ∧
    (∀ j, j ≠ i → getM s' j = getM s j) := by
  have hi : i < s.ms.length := hwf ▸ (List.getElem?_eq_some_iff.mp hd).1
  simp only [step, hd, hsc, hx, Option.isSome_none, Bool.false_eq_true, if_false, getM_setM_same _ _ _ hi,
    (validateScalar_eq _ _ _).1, true_and]
  exact fun j hj => getM_setM_other _ _ _ _ hj

/-- the invariant "outcome is always the validators' verdict on the recorded value; UNSET iff never
    assigned" for a scalar measurement -/
def ScalarGood (d : Decl) (m : M) : Prop :=
  match m.stored with
  | none => m.outcome = .unset ∧ m.marginal = false
  | some x => (m.outcome, m.marginal) = Spec.scalarOutcome d x

theorem ScalarGood.not_partial {d : Decl} {m : M} (h : ScalarGood d m) : m.outcome ≠ .partiallySet := by
  intro e
  unfold ScalarGood Spec.scalarOutcome at h
  split at h
  · simp [e] at h
  · split at h <;> simp [e] at h

theorem go_keeps_nonpartial (ds : List Decl) (ms : List M) (i : Nat) (h : (ms.getD i {}).outcome ≠ .partiallySet) :
    (step.go ds ms).1.getD i {} = ms.getD i {} := by
  fun_induction step.go ds ms generalizing i with
  | case1 _ _ m _ r _ ih =>
    cases i with
    | zero => simp [r, show m.outcome ≠ _ from h]
    | succ i => exact ih i h
  | case2 => rfl

theorem step_scalarGood {s : St} {i : Nat} {d : Decl} (hwf : WF s) (hd : s.decls[i]? = some d) (hsc : d.arity = none)
    (h : ScalarGood d (getM s i)) (o : Op) : ScalarGood d (getM (step s o).1 i) := by
  cases o with
  | setUndeclared => exact h
  | phaseEnd => exact (show getM (step s .phaseEnd).1 i = getM s i from go_keeps_nonpartial _ _ _ h.not_partial) ▸ h
  | set j v =>
    rcases step_set_cases s j v with e | ⟨d', x, hd', hsc', hx, _⟩
    · exact e.symm ▸ h
    · obtain ⟨h1, h2, h3⟩ := c06_scalar_assignment s hwf j v x d' hd' hsc' hx
      by_cases hj : i = j
      · subst hj
        cases hd.symm.trans hd'
        unfold ScalarGood
        rw [h1]
        exact h2
      · exact (h3 i hj).symm ▸ h
  | setDim j c v =>
    rcases step_setDim_cases s j c v with e | ⟨d', _, hd', ha, _, e⟩
    · exact e.symm ▸ h
    · rw [e, getM_setM_other]
      · exact h
      · rintro rfl
        cases hd.symm.trans hd'
        cases hsc.symm.trans ha

/-- over every history: a scalar measurement is UNSET if never (successfully) assigned, otherwise PASS
    exactly when every validator accepts the recorded value, else FAIL, and marginal only if PASS and some
    validator deems the recorded value marginal -/
theorem c06_scalar_invariant (decls : List Decl) (i : Nat) (d : Decl) (hd : decls[i]? = some d) (hsc : d.arity = none) :
    ∀ (ops : List Op) (s : St), s.decls = decls → WF s → ScalarGood d (getM s i) → (getM s i).outcome ≠ .partiallySet →
      ScalarGood d (getM (run s ops).1 i) ∧ (getM (run s ops).1 i).outcome ≠ .partiallySet
  | [], _, _, _, h, hp => ⟨h, hp⟩
  | o :: os, s, hdecl, hwf, h, _ =>
    have h' := step_scalarGood hwf (hdecl ▸ hd) hsc h o
    c06_scalar_invariant decls i d hd hsc os _ ((step_frame s o).1.trans hdecl) (step_wf s o hwf) h' h'.not_partial

def keys (l : List (Coord × Val)) : List Coord := l.map (·.1)

theorem lookup_cons_if (a k : Coord) (b : Val) (l : List (Coord × Val)) :
    ((k, b) :: l).lookup a = if a = k then some b else l.lookup a := by
  simp only [List.lookup_cons]
  split <;> simp_all

theorem lookup_upsert (c c2 : Coord) (v : Val) (l : List (Coord × Val)) :
    (upsert c v l).lookup c2 = if c2 = c then some v else l.lookup c2 := by
  fun_induction upsert c v l with
  | case1 => exact lookup_cons_if ..
  | case2 => rw [lookup_cons_if, lookup_cons_if]; split <;> rfl
  | case3 c' _ _ h ih => rw [lookup_cons_if, lookup_cons_if, ih]; grind

theorem keys_upsert (c : Coord) (v : Val) (l : List (Coord × Val)) :
    keys (upsert c v l) = if c ∈ keys l then keys l else keys l ++ [c] := by
  fun_induction upsert c v l with
  | case1 => rfl
  | case2 => exact (if_pos List.mem_cons_self).symm
  | case3 c' _ _ h ih =>
    simp only [keys, List.map_cons, List.mem_cons, Ne.symm h, false_or] at ih ⊢
    split <;> simp [*]

/-- per coordinate the recorded value is the (transformed) last assigned one, and the coordinates keep
    first-assignment order: an override does not move its row -/
theorem c06_dim_order_is_first_assignment (c : Coord) (v : Val) (l : List (Coord × Val)) :
    (upsert c v l).lookup c = some v ∧
    (∀ c2, c2 ≠ c → (upsert c v l).lookup c2 = l.lookup c2) ∧
    keys (upsert c v l) = (if c ∈ keys l then keys l else keys l ++ [c]) :=
  ⟨by simp [lookup_upsert], fun c2 h => by simp [lookup_upsert, h], keys_upsert c v l⟩

/-- no measurement leaves a phase PARTIALLY_SET -/
theorem c06_never_partially_set_after_phase : ∀ (ds : List Decl) (ms : List M), ms.length ≤ ds.length →
    ∀ m ∈ (step.go ds ms).1, m.outcome ≠ .partiallySet
  | _, [], _ => by simp [step.go]
  | [], _ :: _, h => nomatch h
  | d :: ds, m :: ms, h => by
    intro x hx
    simp only [step.go, List.mem_cons] at hx
    rcases hx with rfl | hx
    · split
      · unfold validateDim
        split <;> simp
      · next hnp => simpa using hnp
    · exact c06_never_partially_set_after_phase ds ms (Nat.le_of_succ_le_succ h) x hx

/-- a dimensioned measurement's outcome after the phase: PASS exactly when every validator accepts every
    row, else FAIL; a validator that raises marks it FAIL and surfaces as an error of the phase -/
theorem c06_dim_outcome (d : Decl) (m : M) :
    let r := validateDim d m
    (r.1.outcome = .pass ∨ r.1.outcome = .fail) ∧ (r.2 = .raised → r.1.outcome = .fail) ∧
    (r.1.marginal = true → r.1.outcome = .pass) ∧ r.1.entries = m.entries := by
  simp only [validateDim]
  split <;> simp

def acceptsAt (d : Decl) (j : Nat) (x : Val) : Bool := isAccept ((d.verdicts x).getD j .raises)

theorem evalRowsFor_eq_evalAll (d : Decl) (j : Nat) : ∀ (rows : List (Coord × Val)),
    evalRowsFor d j rows = evalAll (rows.map fun r => (d.verdicts r.2).getD j .raises)
  | [] => rfl
  | (_, x) :: rows => by
    simp only [evalRowsFor, List.map_cons, evalRowsFor_eq_evalAll d j rows]
    cases (d.verdicts x).getD j .raises <;> rfl

/-- an evaluation as one verdict: a validator's pass over the rows is an element of the `all(...)` over the validators -/
def verdictOf : Option (Bool × Bool) → Verdict
  | none => .raises
  | some (false, _) => .reject
  | some (true, m) => .accept m

theorem isAccept_verdictOf_evalAll (vs : List Verdict) : isAccept (verdictOf (evalAll vs)) = vs.all isAccept := by
  have := evalAll_spec vs
  split at this
  · simp [*, verdictOf, isAccept]
  · rcases this with e | e <;> simp [*, verdictOf, isAccept]

theorem evalDimFrom_eq_evalAll (d : Decl) (rows : List (Coord × Val)) : ∀ (n j : Nat),
    evalDimFrom d rows n j = evalAll ((List.range' j n).map fun k => verdictOf (evalRowsFor d k rows))
  | 0, _ => rfl
  | n+1, j => by
    simp only [evalDimFrom, List.range'_succ, List.map_cons, evalDimFrom_eq_evalAll d rows n (j + 1)]
    rcases evalRowsFor d j rows with _ | ⟨_ | _, _⟩ <;> rfl

/-- a dimensioned measurement is PASS after the phase exactly when every validator accepts every
    recorded row, else FAIL -/
theorem c06_dim_outcome_iff_all_validators (d : Decl) (m : M) :
    (validateDim d m).1.outcome = .pass ↔
      ∀ k, k < d.nValidators → m.entries.all (fun r => acceptsAt d k r.2) = true := by
  have h : (validateDim d m).1.outcome = .pass ↔ isAccept (verdictOf (evalRows d m.entries)) = true := by
    unfold validateDim
    rcases evalRows d m.entries with _ | ⟨_ | _, _⟩ <;> simp [verdictOf, isAccept]
  -- `evalAll` over the validators of `evalAll` over the rows
  rw [h, evalRows, evalDimFrom_eq_evalAll, isAccept_verdictOf_evalAll]
  simp only [evalRowsFor_eq_evalAll, isAccept_verdictOf_evalAll, List.all_map, List.all_eq_true, List.mem_range'_1,
    Nat.zero_le, true_and, Nat.zero_add, Function.comp_apply]
  rfl

/-- non-vacuity: 9 (marginal) then 5 (not marginal): marginal is recomputed, not sticky (fix db5a07a3) -/
example :
    let d : Decl := { arity := none, transform := some, verdicts := fun x => [if x = 9 then .accept true else if x ≤ 10 then .accept false else .reject] }
    let s := (run (init [d]) [.set 0 9, .set 0 5]).1
    (getM s 0).stored = some 5 ∧ (getM s 0).outcome = .pass ∧ (getM s 0).marginal = false := by decide

end OpenHTF.Meas
