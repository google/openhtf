import OpenHTF.Model.AtomicFile
/-
C17 — file output is atomic: for every old content, every serialization (any chunks), every fault and
every crash point.
-/
namespace OpenHTF.AtomicFile

theorem applyAll_append (fs : Fs) (a b : List FsOp) : applyAll fs (a ++ b) = applyAll (applyAll fs a) b :=
  List.foldl_append

theorem applyAll_cons (fs : Fs) (a : FsOp) (b : List FsOp) : applyAll fs (a :: b) = applyAll (apply fs a) b := rfl

theorem flushBuf_onTemp {fs : Fs} (hh : fs.handle = .onTemp) :
    flushBuf fs = { fs with temp := fs.temp.map (· ++ fs.buf), buf := [] } := by
  rw [flushBuf, hh]

theorem flushBuf_dest {fs : Fs} (hh : fs.handle ≠ .onDest) : (flushBuf fs).dest = fs.dest := by
  unfold flushBuf; split <;> first | rfl | contradiction

theorem flushBuf_handle (fs : Fs) : (flushBuf fs).handle = fs.handle := by
  unfold flushBuf; split <;> rfl

/-- appending chunks through the open handle on the temporary file only fills the buffer, in order -/
theorem appends (cs : List Bytes) (fs : Fs) (h : fs.handle = .onTemp) :
    applyAll fs (cs.map .append) = { fs with buf := fs.buf ++ cs.flatten } := by
  induction cs generalizing fs with
  | nil => simp [applyAll]
  | cons c cs ih =>
    rw [List.map_cons, applyAll_cons, apply, if_neg (by simp [h]), ih { fs with buf := fs.buf ++ c } h]
    simp

/-- the state after creating the temporary file and writing the chunks -/
theorem written (old : Option Bytes) (cs : List Bytes) :
    applyAll { dest := old } ([FsOp.createTemp] ++ cs.map FsOp.append) =
      { dest := old, temp := some [], buf := cs.flatten, handle := .onTemp } := by
  rw [applyAll_append, appends cs _ rfl]
  simp [applyAll, apply]

theorem apply_dest (fs : Fs) (o : FsOp) (ho : o ≠ .rename) (hh : fs.handle ≠ .onDest) :
    (apply fs o).dest = fs.dest ∧ (apply fs o).handle ≠ .onDest := by
  cases o with
  | createTemp | closeFail => exact ⟨rfl, nofun⟩
  | append d => simp only [apply]; split <;> exact ⟨rfl, hh⟩
  | flush => exact ⟨flushBuf_dest hh, flushBuf_handle fs ▸ hh⟩
  | close => exact ⟨flushBuf_dest hh, nofun⟩
  | rename => exact absurd rfl ho
  | removeTemp => exact ⟨rfl, hh⟩

/-- as long as nothing was renamed the open handle is not on the destination, and the destination is not touched -/
theorem dest_unchanged (ops : List FsOp) (fs : Fs) (h : FsOp.rename ∉ ops) (hh : fs.handle ≠ .onDest) :
    (applyAll fs ops).dest = fs.dest ∧ (applyAll fs ops).handle ≠ .onDest := by
  induction ops generalizing fs with
  | nil => exact ⟨rfl, hh⟩
  | cons o os ih =>
    have step := apply_dest fs o (fun e => h (e ▸ List.mem_cons_self)) hh
    have := ih (apply fs o) (fun hm => h (List.mem_cons_of_mem _ hm)) step.2
    exact ⟨this.1.trans step.1, this.2⟩

theorem unpublished (old : Option Bytes) (ops : List FsOp) (j : Nat) (h : FsOp.rename ∉ ops) :
    (applyAll { dest := old } (crashAfter j ops)).dest = old :=
  (dest_unchanged _ { dest := old } (fun hm => h (List.mem_of_mem_take hm)) nofun).1

/-- `pre` (no rename) ends with the temporary file complete and closed, then comes the one rename: cut anywhere, the
    destination is old or complete -/
theorem publish_core (old : Option Bytes) (new : Bytes) (pre post : List FsOp) (j : Nat)
    (hpre : FsOp.rename ∉ pre) (hpost : FsOp.rename ∉ post)
    (hst : applyAll { dest := old } pre = { dest := old, temp := some new, buf := [], handle := .closed }) :
    let d := (applyAll { dest := old } (crashAfter j (pre ++ .rename :: post))).dest
    d = old ∨ d = some new := by
  intro d
  by_cases hj : j ≤ pre.length
  · left
    simp only [d, crashAfter, List.take_append_of_le_length hj]
    exact unpublished old pre j hpre
  · right
    -- at least the rename is executed, and nothing after it touches the destination
    obtain ⟨k, rfl⟩ := Nat.exists_eq_add_of_lt (Nat.lt_of_not_le hj)
    simp only [d, crashAfter]
    rw [Nat.add_assoc, List.take_length_add_append, List.take_succ_cons, applyAll_append, hst, applyAll_cons]
    exact (dest_unchanged _ _ (fun hm => hpost (List.mem_of_mem_take hm)) (by simp [apply])).1

/-- `publish_core` for the two tails the callbacks have: the rename, or the rename and the removal of the temporary name -/
theorem publish (old : Option Bytes) (cs : List Bytes) (pre post : List FsOp) (j : Nat)
    (hpre : FsOp.rename ∉ pre)
    (hst : applyAll { dest := old } pre = { dest := old, temp := some (full cs), buf := [], handle := .closed })
    (hpost : post = [.rename] ∨ post = [.rename, .removeTemp]) :
    let d := (applyAll { dest := old } (crashAfter j (pre ++ post))).dest
    d = old ∨ d = some (full cs) := by
  rcases hpost with rfl | rfl <;> exact publish_core old _ pre _ j hpre (by simp) hst

def isBody : FsOp → Bool
  | .append _ => true
  | .flush => true
  | _ => false

def dataOf : List FsOp → Bytes
  | [] => []
  | .append d :: rest => d ++ dataOf rest
  | _ :: rest => dataOf rest

/-- a write phase and then `close`: everything written is in the file, in order, flushed before or not -/
theorem body_close (body : List FsOp) (hb : body.all isBody = true) (fs : Fs) (t : Bytes)
    (hh : fs.handle = .onTemp) (ht : fs.temp = some t) :
    applyAll fs (body ++ [.close]) =
      { fs with temp := some (t ++ fs.buf ++ dataOf body), buf := [], handle := .closed } := by
  induction body generalizing fs t with
  | nil => simp [applyAll, apply, flushBuf_onTemp hh, ht, dataOf]
  | cons o os ih =>
    rw [List.all_cons, Bool.and_eq_true] at hb
    match o, hb.1 with
    | .append d, _ =>
      rw [List.cons_append, applyAll_cons, apply, if_neg (by simp [hh]),
        ih hb.2 { fs with buf := fs.buf ++ d } t hh ht]
      simp [dataOf]
    | .flush, _ =>
      rw [List.cons_append, applyAll_cons, apply, flushBuf_onTemp hh, ht, Option.map_some,
        ih hb.2 { fs with temp := some (t ++ fs.buf), buf := [] } _ hh rfl]
      simp [dataOf]

theorem closed_body (old : Option Bytes) (body : List FsOp) (hb : body.all isBody = true) :
    applyAll { dest := old } ([FsOp.createTemp] ++ body ++ [.close]) =
      { dest := old, temp := some (dataOf body), buf := [], handle := .closed } := by
  rw [List.append_assoc, applyAll_append]
  exact body_close body hb _ [] rfl rfl

theorem body_no_rename (body : List FsOp) (hb : body.all isBody = true) : FsOp.rename ∉ body :=
  fun h => nomatch List.all_eq_true.1 hb _ h

/-- Atomicity with explicit flushes anywhere: a program that creates the temporary file, performs ANY sequence of
    writes and flushes, closes, and only then renames (optionally removing the temporary name afterwards) leaves the
    destination old or complete wherever it is cut. `OutputToFile` and `atomic_write` (with or without filesync, with
    or without additional flushes) are instances; this is why the correspondence does not compare flush operations. -/
theorem c17_atomic_with_any_flushes (old : Option Bytes) (body : List FsOp) (hb : body.all isBody = true)
    (post : List FsOp) (hpost : post = [.rename] ∨ post = [.rename, .removeTemp]) (j : Nat) :
    let d := (applyAll { dest := old } (crashAfter j ([FsOp.createTemp] ++ body ++ [.close] ++ post))).dest
    d = old ∨ d = some (dataOf body) := by
  have hnr : FsOp.rename ∉ ([FsOp.createTemp] ++ body ++ [.close]) := by
    simpa using body_no_rename body hb
  rcases hpost with rfl | rfl <;> exact publish_core old _ _ _ j hnr (by simp) (closed_body old body hb)

/-- what the callbacks write: the chunks, then possibly one explicit flush -/
theorem body_appends (cs : List Bytes) (fl : List FsOp) (hfl : fl = [] ∨ fl = [.flush]) :
    (cs.map FsOp.append ++ fl).all isBody = true ∧ dataOf (cs.map FsOp.append ++ fl) = full cs := by
  induction cs with
  | nil => rcases hfl with rfl | rfl <;> exact ⟨rfl, rfl⟩
  | cons c cs ih => exact ⟨ih.1, congrArg (c ++ ·) ih.2⟩

theorem outputToFile_shape (cs : List Bytes) : ∃ body, body.all isBody = true ∧ dataOf body = full cs ∧
    outputToFile cs .none = [.createTemp] ++ body ++ [.close] ++ [.rename] :=
  have h := body_appends cs [] (.inl rfl)
  ⟨_, h.1, h.2, by simp [outputToFile]⟩

theorem atomicWrite_shape (cs : List Bytes) (fsync : Bool) : ∃ body, body.all isBody = true ∧ dataOf body = full cs ∧
    atomicWrite cs fsync .none = [.createTemp] ++ body ++ [.close] ++ [.rename, .removeTemp] :=
  have h := body_appends cs (if fsync then [.flush] else []) (by cases fsync <;> simp)
  ⟨_, h.1, h.2, by simp [atomicWrite]⟩

theorem success_with_any_flushes (old : Option Bytes) (body : List FsOp) (hb : body.all isBody = true)
    (post : List FsOp) (hpost : post = [.rename] ∨ post = [.rename, .removeTemp]) :
    (applyAll { dest := old } ([FsOp.createTemp] ++ body ++ [.close] ++ post)).dest = some (dataOf body) := by
  rw [applyAll_append, closed_body old body hb]
  rcases hpost with rfl | rfl <;> rfl

/-- the successful run writes exactly the serialization -/
theorem c17_success_exact (old : Option Bytes) (chunks : List Bytes) (fsync : Bool) :
    (applyAll { dest := old } (outputToFile chunks .none)).dest = some (full chunks) ∧
    (applyAll { dest := old } (atomicWrite chunks fsync .none)).dest = some (full chunks) := by
  obtain ⟨b0, hb0, hd0, he0⟩ := outputToFile_shape chunks
  obtain ⟨b1, hb1, hd1, he1⟩ := atomicWrite_shape chunks fsync
  rw [he0, he1]
  exact ⟨hd0 ▸ success_with_any_flushes old b0 hb0 _ (.inl rfl), hd1 ▸ success_with_any_flushes old b1 hb1 _ (.inr rfl)⟩

/-- Atomicity of `OutputToFile` with a filename pattern: whatever the fault (serializer after k chunks,
    k-th write, close) and wherever the process is killed (after any number j of file-system
    operations, buffered data being lost), the destination either still holds its previous state (absent or the
    old complete content) or holds the complete new serialization — never a truncated or partial record. -/
theorem c17_atomic_output_to_file (old : Option Bytes) (chunks : List Bytes) (fault : Fault) (j : Nat) :
    let d := (applyAll { dest := old } (crashAfter j (outputToFile chunks fault))).dest
    d = old ∨ d = some (full chunks) := by
  cases fault with
  | none =>
    obtain ⟨body, hb, hd, he⟩ := outputToFile_shape chunks
    rw [he, ← hd]
    exact c17_atomic_with_any_flushes old body hb _ (.inl rfl) j
  | _ => exact .inl (unpublished old _ j (by simp [outputToFile, -List.map_take]))

/-- the same for `atomic_write`, with and without filesync -/
theorem c17_atomic_atomic_write (old : Option Bytes) (chunks : List Bytes) (fsync : Bool) (fault : Fault) (j : Nat) :
    let d := (applyAll { dest := old } (crashAfter j (atomicWrite chunks fsync fault))).dest
    d = old ∨ d = some (full chunks) := by
  cases fault with
  | none =>
    obtain ⟨body, hb, hd, he⟩ := atomicWrite_shape chunks fsync
    rw [he, ← hd]
    exact c17_atomic_with_any_flushes old body hb _ (.inr rfl) j
  | _ => exact .inl (unpublished old _ j (by simp [atomicWrite, -List.map_take]))

/-- publishing BEFORE closing is not atomic: killed right after the rename, the destination is an empty (truncated)
    file although an old complete record existed and the new one is non-empty -/
theorem rename_before_close_is_not_atomic :
    let d := (applyAll { dest := some [9, 9] } (crashAfter 3 (atomicWriteRenameBeforeClose [[1, 2]]))).dest
    d ≠ some [9, 9] ∧ d ≠ some (full [[1, 2]]) := by
  decide

/-- non-vacuity: an old record, three chunks, the serializer fails after two: the old record survives -/
example : (applyAll { dest := some [9, 9] } (outputToFile [[1], [2], [3]] (.serializer 2))).dest = some [9, 9] := by decide
example : (applyAll { dest := some [9, 9] } (atomicWrite [[1], [2], [3]] true .none)).dest = some [1, 2, 3] := by decide

theorem applyAll2_split (ops : List (Bool × FsOp)) (s : Fs × Fs) :
    applyAll2 s ops = (applyAll s.1 (opsOf false ops), applyAll s.2 (opsOf true ops)) := by
  induction ops generalizing s with
  | nil => rfl
  | cons o ops ih =>
    obtain ⟨b, o⟩ := o
    rw [applyAll2, List.foldl_cons, ← applyAll2, ih]
    cases b <;> rfl

/-- C17, one callback object serving two tests at once: however the file-system operations of the two calls
    interleave, each destination ends up exactly as if its call had run alone — in particular, if both calls are
    fault-free, each destination holds exactly its own serialization (the calls share no handle and no
    temporary file) -/
theorem c17_interleaved_calls_are_independent (ops : List (Bool × FsOp)) (old0 old1 : Option Bytes)
    (chunks0 chunks1 : List Bytes)
    (h0 : opsOf false ops = outputToFile chunks0 .none) (h1 : opsOf true ops = outputToFile chunks1 .none) :
    (applyAll2 ({ dest := old0 }, { dest := old1 }) ops).1.dest = some (full chunks0) ∧
    (applyAll2 ({ dest := old0 }, { dest := old1 }) ops).2.dest = some (full chunks1) := by
  rw [applyAll2_split]
  simp only [h0, h1]
  exact ⟨(c17_success_exact old0 chunks0 false).1, (c17_success_exact old1 chunks1 false).1⟩

/-- what sharing the handle between the calls does: the second call's `open` replaces the handle the first call
    writes through, so the first destination is published truncated -/
example : (applyAll { dest := none } ([.createTemp] ++ ([] : List Bytes).map .append ++ [.close] ++ [.rename])).dest
    ≠ some (full [[1], [2]]) := by decide

end OpenHTF.AtomicFile
