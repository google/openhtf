import OpenHTF.Model.Abort
import OpenHTF.Proofs.Lemmas.Lts
/-
C04 / C03(abort) — theorems over the interleaving model of abort() against the executor thread:
for every sequence of actions the transition system accepts (every interleaving, any number of
successive abort calls, nested SIGINT handlers included).
-/
namespace OpenHTF.Abort

def pcOk (p : Nat) : Prop := p ≤ 10 ∨ (20 ≤ p ∧ p ≤ 27)

structure Inv (s : S) : Prop where
  pcs : (s.aPc ≤ 10 ∨ (20 ≤ s.aPc ∧ s.aPc ≤ 27)) ∧ (s.aSaved ≤ 10 ∨ (20 ≤ s.aSaved ∧ s.aSaved ≤ 27)) ∧ s.aSaved ≠ 7 ∧ s.aSaved ≠ 24 ∧ (s.aPc = 0 → s.aSaved = 0) ∧
        -- a call on the first-abort path interrupted no call that had already set the abort flag
        (2 ≤ s.aPc → s.aPc ≤ 10 → s.aSaved ≤ 2)
  -- the teardown lock
  td : (0 < s.eCount ↔ s.tdHolder = 1) ∧ s.tdHolder ≤ 2 ∧
       (s.tdHolder = 2 ↔ ((5 ≤ s.aPc ∧ s.aPc ≤ 10) ∨ (5 ≤ s.aSaved ∧ s.aSaved ≤ 10)))
  -- `_current_phase_thread_lock`
  curl : s.curHolder ≤ 2 ∧ (s.curHolder = 2 ↔ (s.aPc = 7 ∨ s.aPc = 24))
  -- what the abort calls in progress, suspended or returned have set
  flags : ((3 ≤ s.aPc ∨ 3 ≤ s.aSaved ∨ 1 ≤ s.nRet) → s.abort = true) ∧
          ((21 ≤ s.aPc ∨ 21 ≤ s.aSaved ∨ s.forcedRet = true) → s.fullAbort = true) ∧
          (s.canDie = true → 1 ≤ s.nRet) ∧
          ((4 ≤ s.aPc ∧ s.aPc ≤ 10 ∨ 4 ≤ s.aSaved ∧ s.aSaved ≤ 10 ∨ 22 ≤ s.aPc ∨ 22 ≤ s.aSaved) → s.published = true) ∧
          -- a forced call exists only after some call has set the abort flag: that call returned or is suspended
          ((20 ≤ s.aPc ∨ 20 ≤ s.aSaved) → (1 ≤ s.nRet ∨ (3 ≤ s.aSaved ∧ 20 ≤ s.aPc))) ∧
          (s.abort = true → (3 ≤ s.aPc ∨ 3 ≤ s.aSaved ∨ 1 ≤ s.nRet)) ∧
          (s.forcedRet = true → 1 ≤ s.nRet) ∧
          (s.canDie = true → 3 ≤ s.aPc → s.forcedRet = true)
  -- the executor's program order
  prot : (s.checked = true → s.published = true ∧ s.eCount = 0 ∧ s.finalised = false) ∧
         (s.faChecked = true → 0 < s.eCount) ∧
         (0 < s.eCount → s.published = true) ∧
         (s.cur = true → s.armed2 = false) ∧
         (s.armed2 = true → s.published = true ∧ s.finalised = false) ∧
         (s.needReset = true → 0 < s.eCount) ∧
         (s.cur = true → s.needReset = false)
  -- while a first-path call is between A5 and its release, the stop flag is set
  stopHeld : ((6 ≤ s.aPc ∧ s.aPc ≤ 10) ∨ (6 ≤ s.aSaved ∧ s.aSaved ≤ 10)) → s.stopping = true
  -- after an abort call returned, a phase outside teardown cannot pass: flag set, or its abort check is stale
  afterRet : 1 ≤ s.nRet → s.eCount = 0 → s.stopping = true ∨ s.checked = false
  -- the executor's critical section
  crit : (s.curHolder = 1 → s.armed2 = false ∧ s.finalised = false ∧
            (s.eCount = 0 → s.checked = true) ∧ (0 < s.eCount → s.faChecked = true ∧ s.needReset = false) ∧
            (s.started = true → s.ans3 = some false ∧ s.cur = true) ∧ (s.started = false → s.cur = false)) ∧
         (s.curHolder ≠ 1 → s.ans3 = none ∧ s.started = false)
  -- a phase outside teardown gets the answer "not stopping" only while no abort call has returned: `lateStart` stays false
  critNoRet : s.curHolder = 1 → s.ans3 = some false → s.eCount = 0 →
              s.nRet = 0 ∧ (s.aPc ≤ 6 ∨ 20 ≤ s.aPc ∧ s.aPc ≤ 23) ∧ (s.aSaved ≤ 6 ∨ 20 ≤ s.aSaved ∧ s.aSaved ≤ 23)
  -- single abort never cancels teardown
  tdClean : s.tdHolder = 1 → s.needReset = false → s.fullAbort = false → s.stopping = false
  critTd : s.curHolder = 1 → 0 < s.eCount → s.ans3 = some true → s.fullAbort = true
  -- after a forced abort returned, a teardown phase cannot pass either
  afterForced : s.forcedRet = true → s.stopping = true ∨ s.faChecked = false
  forcedStop : s.faChecked = true → ((23 ≤ s.aPc ∧ s.aPc ≤ 27) ∨ (23 ≤ s.aSaved ∧ s.aSaved ≤ 27)) → s.stopping = true
  -- a forced abort's stop request can only be wiped by the reset of a teardown sequence that had checked the
  -- full-abort flag before it was set; that sequence must check again before it starts anything
  forcedWiped : ((23 ≤ s.aPc ∧ s.aPc ≤ 27) ∨ (23 ≤ s.aSaved ∧ s.aSaved ≤ 27)) → s.stopping = false →
                s.faChecked = false ∧ s.checked = false ∧ s.cur = false
  forcedKill : ((25 ≤ s.aPc ∧ s.aPc ≤ 27) ∨ (25 ≤ s.aSaved ∧ s.aSaved ≤ 27)) →
               s.stopping = true ∧ (s.needReset = true → s.faChecked = false)
  critForced : s.curHolder = 1 → 0 < s.eCount → s.ans3 = some false →
               s.forcedRet = false ∧ ¬(25 ≤ s.aPc ∧ s.aPc ≤ 27) ∧ ¬(25 ≤ s.aSaved ∧ s.aSaved ≤ 27)
  -- bodies never overlap (unless one was given up on)
  live : (s.alive = true → s.abandoned = false → s.killReq = false → s.cur = true) ∧
         (((8 ≤ s.aPc ∧ s.aPc ≤ 9) ∨ (8 ≤ s.aSaved ∧ s.aSaved ≤ 9) ∨ (25 ≤ s.aPc ∧ s.aPc ≤ 26) ∨ (25 ≤ s.aSaved ∧ s.aSaved ≤ 26)) →
            s.armed2 = false ∧ s.curHolder ≠ 1) ∧
         (s.killReq = true → s.alive = true → s.abandoned = false →
            (s.aPc = 9 ∨ s.aSaved = 9 ∨ s.aPc = 26 ∨ s.aSaved = 26 ∨ s.forcedRet = true))
  ghosts : s.lateStart = false ∧ s.lateTdStart = false ∧ s.startAfterFinal = false ∧ s.overlap = false ∧
           (s.fullAbort = false → s.tdRefused = false)
  final : (s.finalised = true → s.curHolder ≠ 1 ∧ s.checked = false ∧ s.armed2 = false ∧ s.eCount = 0) ∧
          (s.outcomeAborted = true → s.abort = true)

theorem inv_init : Inv {} := by
  constructor <;> simp

/- One goal for every path through the guard of every action, with the successor state written out; `cases s` makes
   the fields variables, so that a guard such as `aPc = 3` turns every bound on the program counter into a comparison
   of numerals. In each goal `grind` proves the 19 fields of `Inv s'` through the constructor (`[Inv]`), by cases on
   its premises (`splitImp`). One call for a goal and not one for a field, because reading the hypotheses is the dear
   part of a call; but for `eStopCheck3`: the answer read under the lock decides `critNoRet`, `critTd`, `critForced`
   at once, and in one call each proved implication becomes a hypothesis to split on for the next. -/
theorem inv_step (s s' : S) (a : Act) (h : Inv s) (hs : step s a = some s') : Inv s' := by
  cases s
  cases a
  case eStopCheck3 =>
    simp only [step] at hs
    split at hs <;> cases hs
    cases h
    constructor <;> first | assumption | grind
  all_goals
    simp only [step, ret] at hs <;> (repeat' split at hs) <;> cases hs <;> subst_vars <;>
      grind +splitImp (splits := 20) [Inv]

theorem reach_inv {as : List Act} {s : S} (hr : run {} as = some s) : Inv s :=
  Lts.run_induction step run (fun _ => rfl) (fun _ _ _ => rfl) Inv inv_step as {} s inv_init hr

/-- C04: under every interleaving, once an abort call has returned no phase outside a teardown
    sequence (test_start, setup, main) is started. -/
theorem c04_no_start_after_abort_returned (as : List Act) (s : S) (hr : run {} as = some s) :
    s.lateStart = false := (reach_inv hr).ghosts.1

/-- C03 (abort clause): as long as no second (forced) abort was requested, no teardown phase start is
    ever refused: a single abort at any moment never cancels a teardown phase. -/
theorem c03_single_abort_never_cancels_teardown (as : List Act) (s : S) (hr : run {} as = some s)
    (hsingle : s.fullAbort = false) : s.tdRefused = false := (reach_inv hr).ghosts.2.2.2.2 hsingle

/-- and while the executor is inside a teardown sequence that has done its reset, the stop flag is clear -/
theorem c03_teardown_runs_with_clear_stop_flag (as : List Act) (s : S) (hr : run {} as = some s)
    (hin : s.tdHolder = 1) (hreset : s.needReset = false) (hsingle : s.fullAbort = false) : s.stopping = false :=
  (reach_inv hr).tdClean hin hreset hsingle

/-- C04: once a second (forced) abort call has returned, no teardown phase is started either. -/
theorem c04_no_teardown_start_after_second_abort_returned (as : List Act) (s : S) (hr : run {} as = some s) :
    s.lateTdStart = false := (reach_inv hr).ghosts.2.1

/-- C04: never two phase bodies at once (a body that was given up on - timeout, cancel timeout - excepted). -/
theorem c04_no_two_bodies_at_once (as : List Act) (s : S) (hr : run {} as = some s) :
    s.overlap = false := (reach_inv hr).ghosts.2.2.2.1

/-- C04: nothing starts after the record was finalized. -/
theorem c04_nothing_starts_after_finalization (as : List Act) (s : S) (hr : run {} as = some s) :
    s.startAfterFinal = false := (reach_inv hr).ghosts.2.2.1

theorem step_sticky (s s' : S) (a : Act) (hs : step s a = some s') :
    (s.abort = true → s'.abort = true) ∧
    (s.finalised = true → s'.finalised = true ∧ s'.outcomeAborted = s.outcomeAborted) := by
  -- only `aSetAbort` and `eFinal` write these fields; all but the seven named actions are a guard and a successor
  cases a
  case eTdRel | aReadExec | aTryTd | aSetStop | aCurRel | aKill | aEnd =>
    all_goals dsimp only [step, ret] at hs <;> (repeat' split at hs) <;> cases hs <;> exact ⟨id, fun h => ⟨h, rfl⟩⟩
  all_goals
    obtain ⟨hc, rfl⟩ := Lts.guarded hs
    first | exact ⟨id, fun h => ⟨h, rfl⟩⟩ | simp_all

theorem abort_monotone (s s' : S) (a : Act) (hs : step s a = some s') (h : s.abort = true) : s'.abort = true :=
  (step_sticky s s' a hs).1 h

theorem final_sticky_run (as : List Act) (s s' : S) (hr : run s as = some s') (hf : s.finalised = true) :
    s'.finalised = true ∧ s'.outcomeAborted = s.outcomeAborted :=
  Lts.run_induction step run (fun _ => rfl) (fun _ _ _ => rfl)
    (fun t => t.finalised = true ∧ t.outcomeAborted = s.outcomeAborted)
    (fun t t' a h ht => ((step_sticky t t' a ht).2 h.1).imp_right (·.trans h.2)) as s s' ⟨hf, rfl⟩ hr

theorem outcome_is_abort_flag_at_final (bs : List Act) (s1 s2 s3 : S) (hfin : step s1 .eFinal = some s2)
    (h3 : run s2 bs = some s3) : s3.outcomeAborted = s1.abort := by
  obtain ⟨-, rfl⟩ := Lts.guarded hfin
  exact (final_sticky_run bs _ s3 h3 rfl).2

/-- C04: ABORTED wins: if the abort flag was set when the executor takes its finalisation decision, the
    outcome is ABORTED, whatever happens before and after. -/
theorem c04_aborted_wins (as bs : List Act) (s1 s2 s3 : S) (_h1 : run {} as = some s1) (hab : s1.abort = true)
    (hfin : step s1 .eFinal = some s2) (h3 : run s2 bs = some s3) : s3.outcomeAborted = true :=
  (outcome_is_abort_flag_at_final bs s1 s2 s3 hfin h3).trans hab

/-- the answer the executor acts on is the stop flag read under the lock that publishes the phase thread -/
theorem c04_start_needs_clear_stop_flag (s s' : S) (hs : step s .eStart = some s') :
    s.ans3 = some false ∧ s.curHolder = 1 := by
  have h := (Lts.guarded hs).1
  simp only [Bool.and_eq_true, decide_eq_true_eq] at h
  exact ⟨h.1.2, h.1.1⟩

def abortActs : List Act :=
  [.aReadAbort, .aSetAbort, .aSetFull, .aReadExec, .aTryTd, .aSetStop, .aCurAcq, .aCurRel, .aKill, .aGiveUp, .aEnd]

/-- The step of `abort()` that stands at program counter `p`: 1..10 on the first path, 20..27 on the forced one
    (6, 23: the blocking acquire of `_current_phase_thread_lock`; 9, 26: giving up the wait is always possible). -/
def nextAct : Nat → Act
  | 1 => .aReadAbort | 2 => .aSetAbort | 3 | 21 => .aReadExec | 4 => .aTryTd | 5 | 22 => .aSetStop
  | 6 | 23 => .aCurAcq | 7 | 24 => .aCurRel | 8 | 25 => .aKill | 9 | 26 => .aGiveUp | 20 => .aSetFull | _ => .aEnd

theorem nextAct_mem (p : Nat) : nextAct p ∈ abortActs := by
  unfold nextAct
  split <;> decide

/-- Only the acquire waits for anything. -/
theorem nextAct_enabled (s : S) (hp : pcOk s.aPc) (h0 : s.aPc ≠ 0) (hc : s.aPc = 6 ∨ s.aPc = 23 → s.curHolder = 0) :
    (step s (nextAct s.aPc)).isSome = true := by
  unfold nextAct pcOk at *
  split <;> simp [step, *] <;> grind

/-- C04 (no deadlock, model form): an abort call in progress always has an enabled next step, unless the
    executor is inside its short `_current_phase_thread_lock` section - and that section can always proceed.
    In particular the holder of the teardown lock can always move towards releasing it, so the executor's
    blocking acquire is never blocked forever. -/
theorem c04_lock_holder_can_always_move (as : List Act) (s : S) (hr : run {} as = some s) :
    (s.aPc ≠ 0 → (abortActs.any (fun a => (step s a).isSome) = true ∨ s.curHolder = 1)) ∧
    (s.curHolder = 1 → ([Act.eStopCheck3, .eStart, .eRefuse, .eCurRel].any (fun a => (step s a).isSome) = true)) := by
  refine ⟨fun hpc => ?_, fun hcur => ?_⟩
  · have h := reach_inv hr
    by_cases hcur : s.curHolder = 1
    · exact .inr hcur
    · refine .inl (List.any_eq_true.mpr ⟨_, nextAct_mem _, nextAct_enabled s h.pcs.1 hpc ?_⟩)
      -- the lock is held by the abort call only at 7 and 24
      have := h.curl
      omega
  · -- the four actions of the critical section, by the answer of the stop check and whether the thread was started
    dsimp only [List.any_cons, List.any_nil, step]
    simp only [hcur]
    rcases s.ans3 with _ | _ | _ <;> cases s.started <;> rfl

end OpenHTF.Abort
