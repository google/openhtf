import OpenHTF.Model.AdbFrame
/-
C13 — ADB message framing. Theorems for every command of the (regenerated) command list, all 32-bit
arguments, every payload, every corrupted/truncated transport script, every writer schedule.
-/
namespace OpenHTF.AdbFrame

/-- the struct format in the source is six little-endian 32-bit words, which is what `header` models -/
theorem c13_header_format : Gen.c13_headerFormat = "<6I" := by decide

theorem c13_header_layout (m : Msg) :
    (header m).length = 24 ∧
    header m = le32 m.cmd ++ le32 m.arg0 ++ le32 m.arg1 ++ le32 m.data.length ++ le32 (csum m.data) ++
               le32 (m.cmd ^^^ 0xFFFFFFFF) := ⟨rfl, rfl⟩

/-- the wire values of the commands are pairwise distinct 32-bit words (so WIRE_TO_CMD inverts CMD_TO_WIRE) -/
theorem c13_wire_commands_injective : cmds.Nodup ∧ cmdNames.Nodup ∧ ∀ c ∈ cmds, c < 4294967296 := by
  decide +kernel

theorem unle32_le32 (w : Nat) (h : w < 4294967296) : unle32 (le32 w) = some w := by
  simp only [le32, unle32]; congr 1; omega

theorem parse_header (m : Msg) (hc : m.cmd < 4294967296) (h0 : m.arg0 < 4294967296) (h1 : m.arg1 < 4294967296)
    (hl : m.data.length < 4294967296) :
    parseHeader (header m) = some ⟨m.cmd, m.arg0, m.arg1, m.data.length, csum m.data, magic m.cmd⟩ := by
  have hs : csum m.data < 4294967296 := by unfold csum; omega
  have hx : magic m.cmd < 4294967296 := by
    have : m.cmd ^^^ 0xFFFFFFFF < 2 ^ 32 := Nat.xor_lt_two_pow (by simpa using hc) (by decide)
    simpa [magic] using this
  have raw : ∀ w, w < 4294967296 →
      unle32 [w % 256, w / 256 % 256, w / 65536 % 256, w / 16777216 % 256] = some w :=
    fun w hw => unle32_le32 w hw
  simp only [header, le32, List.cons_append, List.nil_append, parseHeader,
    raw _ hc, raw _ h0, raw _ h1, raw _ hl, raw _ hs, raw _ hx]

/-- what a reader sees on the wire for one written message (an empty payload write carries no bytes) -/
def frame (m : Msg) : List (List Nat) := if m.data = [] then [header m] else [header m, m.data]

theorem toAdbMessage_eq_ok (r : Raw) (d : List Nat) (m : Msg) : toAdbMessage r d = .ok m ↔
    r.cmd ∈ cmds ∧ d.length = r.len ∧ csum d = r.sum ∧ m = ⟨r.cmd, r.arg0, r.arg1, d⟩ := by
  grind [toAdbMessage]

/-- `read_message` once the header has been unpacked -/
theorem readMessage_parsed {hdr : List Nat} {r : Raw} (hp : parseHeader hdr = some r) (tail : List (List Nat)) :
    readMessage (hdr :: tail) =
      if r.len > 0 then
        match tail with
        | [] => (.error .readFailed, [])
        | d :: rest => (toAdbMessage r d, rest)
      else (toAdbMessage r [], tail) := by
  have h0 : hdr ≠ [] := by rintro rfl; simp [parseHeader] at hp
  simp only [readMessage, h0, if_false, hp]
  split <;> rfl

/-- Lossless round trip: reading back any written frame yields the same command, arguments and
    payload, and leaves the rest of the stream untouched. -/
theorem c13_roundtrip (m : Msg) (rest : List (List Nat)) (hcmd : m.cmd ∈ cmds)
    (h0 : m.arg0 < 4294967296) (h1 : m.arg1 < 4294967296) (hl : m.data.length < 4294967296) :
    readMessage (frame m ++ rest) = (.ok m, rest) := by
  have hp := parse_header m (c13_wire_commands_injective.2.2 _ hcmd) h0 h1 hl
  have hok := (toAdbMessage_eq_ok ⟨m.cmd, m.arg0, m.arg1, m.data.length, csum m.data, magic m.cmd⟩ m.data m).2
    ⟨hcmd, rfl, rfl, rfl⟩
  unfold frame
  by_cases hd : m.data = []
  · rw [hd] at hok
    simpa [hd, readMessage_parsed hp] using hok
  · simp [hd, readMessage_parsed hp, List.length_pos_iff.mpr hd, hok]

/-- non-vacuity: an OKAY message with a payload satisfies the hypotheses -/
example : (⟨wire "OKAY", 1, 2, [104, 105]⟩ : Msg).cmd ∈ cmds := by decide +kernel

/-- Whatever `read_message` delivers is consistent with the header it came with: known command,
    announced length, announced checksum. A corrupt frame is therefore never delivered. -/
theorem c13_delivered_is_consistent (script : List (List Nat)) (m : Msg) (rest : List (List Nat))
    (h : readMessage script = (.ok m, rest)) :
    ∃ hdr r tail, script = hdr :: tail ∧ parseHeader hdr = some r ∧ m.cmd = r.cmd ∧ r.cmd ∈ cmds ∧
      m.arg0 = r.arg0 ∧ m.arg1 = r.arg1 ∧ m.data.length = r.len ∧ csum m.data = r.sum := by
  cases script with
  | nil => simp [readMessage] at h
  | cons hdr tail =>
    cases hr : parseHeader hdr with
    | none => simp only [readMessage, hr] at h; split at h <;> simp at h
    | some r =>
      -- what is delivered is what `to_adb_message` made of the unpacked header and of some payload `d`
      obtain ⟨d, hd⟩ : ∃ d, toAdbMessage r d = .ok m := by
        rw [readMessage_parsed hr] at h
        split at h
        · cases tail with
          | nil => simp at h
          | cons d t => exact ⟨d, (Prod.mk.inj h).1⟩
        · exact ⟨[], (Prod.mk.inj h).1⟩
      obtain ⟨hk, hlen, hsum, rfl⟩ := (toAdbMessage_eq_ok r d m).1 hd
      exact ⟨hdr, r, tail, rfl, hr, rfl, hk, rfl, rfl, hlen, hsum⟩

theorem rejects_integrity (hdr d : List Nat) (r : Raw) (rest : List (List Nat)) (hp : parseHeader hdr = some r)
    (hk : r.cmd ∈ cmds) (hlen : r.len > 0) (hne : d.length ≠ r.len ∨ csum d ≠ r.sum) :
    readMessage (hdr :: d :: rest) = (.error .integrity, rest) := by
  simp [readMessage_parsed hp, hlen, toAdbMessage, hk, hne]

/-- a payload whose length disagrees with the header is an integrity error -/
theorem c13_rejects_length_mismatch (hdr d : List Nat) (r : Raw) (rest : List (List Nat))
    (hp : parseHeader hdr = some r) (hk : r.cmd ∈ cmds) (hlen : r.len > 0) (hne : d.length ≠ r.len) :
    readMessage (hdr :: d :: rest) = (.error .integrity, rest) :=
  rejects_integrity hdr d r rest hp hk hlen (.inl hne)

/-- a payload whose byte sum disagrees with the header is an integrity error -/
theorem c13_rejects_checksum_mismatch (hdr d : List Nat) (r : Raw) (rest : List (List Nat))
    (hp : parseHeader hdr = some r) (hk : r.cmd ∈ cmds) (hlen : r.len > 0) (hne : csum d ≠ r.sum) :
    readMessage (hdr :: d :: rest) = (.error .integrity, rest) :=
  rejects_integrity hdr d r rest hp hk hlen (.inr hne)

/-- an unknown command word is a protocol error (with or without payload) -/
theorem c13_rejects_unknown_command (hdr : List Nat) (r : Raw) (tail : List (List Nat))
    (hp : parseHeader hdr = some r) (hk : r.cmd ∉ cmds) (ht : r.len > 0 → tail ≠ []) :
    (readMessage (hdr :: tail)).1 = .error .protocol := by
  rw [readMessage_parsed hp]
  split
  · rename_i hl
    cases tail with
    | nil => exact absurd rfl (ht hl)
    | cons d t => simp [toAdbMessage, hk]
  · simp [toAdbMessage, hk]

/-- an empty or short (or over-long) header is a protocol error -/
theorem c13_rejects_short_or_empty_header (hdr : List Nat) (tail : List (List Nat)) (h : hdr.length ≠ 24) :
    (readMessage (hdr :: tail)).1 = .error .protocol := by
  simp only [readMessage]
  split
  · rfl
  · have : parseHeader hdr = none := by
      unfold parseHeader
      split
      · simp at h
      · rfl
    simp [this]

/-- once the header went out the payload goes out too, expired timeout or not -/
theorem c13_payload_follows_header_even_if_expired (m : Msg) (expired : Bool) :
    writeMessage m expired = [header m, m.data] := rfl

/-- complete header·payload pairs at the front of a log do not matter to how the rest is read -/
theorem framed_append (l r : List (Nat × Bool)) (h : framed l = some none) : framed (l ++ r) = framed r := by
  fun_induction framed l
  case case1 => rfl
  case case3 i rest ih => exact (if_pos rfl).trans (ih h)
  all_goals cases h

/-- the lock discipline of the writer and of the reader system: every thread that is not idle is the holder -/
def Mutex (holder : Option Nat) (pc : Nat → Nat) : Prop := ∀ j, pc j ≠ 0 → holder = some j

/-- It survives a move of thread `i` to `v` that leaves the lock with `i`, or frees it when `v = 0`, if the lock was free
    or `i`'s. -/
theorem Mutex.updPc {holder holder' : Option Nat} {pc : Nat → Nat} {i v : Nat} (h : Mutex holder pc)
    (hfree : holder = none ∨ holder = some i) (hh : v ≠ 0 → holder' = some i) : Mutex holder' (updPc pc i v) := by
  intro j hj
  have := h j
  grind [AdbFrame.updPc]

theorem Mutex.unique {holder : Option Nat} {pc : Nat → Nat} (h : Mutex holder pc) {i j : Nat} (hi : pc i ≠ 0)
    (hj : pc j ≠ 0) : i = j :=
  Option.some.inj ((h i hi).symm.trans (h j hj))

/-- a thread found at `w` after `i` moved to another pc `v` is not `i`, and was at `w` before -/
theorem updPc_ne {pc : Nat → Nat} {i v j w : Nat} (hv : v ≠ w) (h : updPc pc i v j = w) : j ≠ i ∧ pc j = w := by
  unfold updPc at h
  split at h
  · exact absurd h hv
  · exact ⟨‹_›, h⟩

/-- the log is complete pairs, followed by the holder's header while the holder is between its two writes -/
def WInv (s : WS) : Prop :=
  Mutex s.holder s.pc ∧ ∃ l, framed l = some none ∧ s.log = l ++ match s.holder with
    | some i => if s.pc i = 2 then [(i, true)] else []
    | none => []

/-- for the total steps of the two systems, `if enabled then … else s`: what holds of `s` holds of the result if the
    enabled branch keeps it -/
theorem ite_keeps {α : Type} {P : α → Prop} {c : Prop} [Decidable c] {a b : α} (hb : P b) (ha : c → P a) :
    P (if c then a else b) := by
  split
  · exact ha ‹c›
  · exact hb

theorem winv_step (s : WS) (a : WAct) (h : WInv s) : WInv (wstep s a) := by
  cases a <;> simp only [wstep] <;> refine ite_keeps h fun hc => ?_ <;> obtain ⟨hmx, l, hl, hlog⟩ := h
  case acquire i =>
    refine ⟨hmx.updPc (.inl hc.1) (fun _ => rfl), l, hl, ?_⟩
    simp only [updPc, if_true]
    rw [hlog, hc.1]; simp
  all_goals
    -- the other three actions are the lock holder's
    rename_i i
    have hh : s.holder = some i := hmx i (by omega)
    simp only [hh, hc] at hlog
  case writeHdr =>
    exact ⟨hmx.updPc (.inr hh) (fun _ => hh), l, hl, by simp [hh, updPc, hlog]⟩
  case writeData =>
    -- the dangling header and this payload make one more complete pair
    refine ⟨hmx.updPc (.inr hh) (fun _ => hh), s.log ++ [(i, false)], ?_, by simp [hh, updPc]⟩
    rw [hlog]; simp [framed_append l _ hl, framed]
  case release =>
    exact ⟨hmx.updPc (.inr hh) (fun h => absurd rfl h), l, hl, by simpa using hlog⟩

/-- Under every interleaving of any number of writer threads, the sequence of transport writes is a
    concatenation of complete header·payload pairs, each pair from one thread, followed by at most
    one dangling header of the thread currently holding the writer lock: headers and payloads of
    concurrent writers never interleave. (For `read_message` and its `_reader_lock`: `c13_readers_do_not_interleave`.) -/
theorem c13_writers_do_not_interleave (acts : List WAct) :
    framed (acts.foldl wstep {}).log ≠ none := by
  obtain ⟨-, l, hl, hlog⟩ : WInv (acts.foldl wstep {}) :=
    acts.foldlRecOn wstep ⟨by intro i hi; simp at hi, [], rfl, rfl⟩ fun s h a _ => winv_step s a h
  rw [hlog, framed_append l _ hl]
  (repeat' split) <;> simp [framed]

/-- non-vacuity: two writers really interleave their critical sections in the model -/
example : framed ([WAct.acquire 1, .acquire 2, .writeHdr 1, .writeHdr 2, .writeData 1, .release 1, .acquire 2,
    .writeHdr 2].foldl wstep {}).log = some (some 2) := by decide

/-- the acceptor of the read log is in some state `st`, and that is `some i` while reader `i` is between header and payload -/
def RInv (s : RS) : Prop :=
  Mutex s.holder s.pc ∧
  ∃ st, s.log.foldl racc (some none) = some st ∧ ∀ i, s.pc i = 2 → st = some i

theorem rinv_step (s : RS) (a : RAct) (h : RInv s) : RInv (rstep s a) := by
  cases a <;> simp only [rstep] <;> refine ite_keeps h fun hc => ?_ <;> obtain ⟨hmx, st, hst, h2⟩ := h
  case acquire i =>
    exact ⟨hmx.updPc (.inl hc.1) (fun _ => rfl), st, hst, fun j hj => h2 j (updPc_ne (by decide) hj).2⟩
  case release i =>
    exact ⟨hmx.updPc (.inr (hmx i hc)) (fun h => absurd rfl h), st, hst,
      fun j hj => h2 j (updPc_ne (by decide) hj).2⟩
  case readHdr i due =>
    have hh : s.holder = some i := hmx i (by omega)
    have hmx' := hmx.updPc (v := if due then 2 else 3) (.inr hh) (fun _ => hh)
    refine ⟨hmx', some i, by simp [List.foldl_append, hst, racc], fun j hj => ?_⟩
    exact congrArg some (hmx'.unique (by simp only [updPc, if_true]; split <;> decide) (by simp only at hj; omega))
  case readData i =>
    have hh : s.holder = some i := hmx i (by omega)
    refine ⟨hmx.updPc (.inr hh) (fun _ => hh), none, by simp [List.foldl_append, hst, h2 i hc, racc],
      fun j hj => ?_⟩
    obtain ⟨ne, hj⟩ := updPc_ne (by decide) hj
    exact absurd (hmx.unique (by omega) (by omega)) ne

theorem rinv_run (acts : List RAct) : RInv (acts.foldl rstep {}) :=
  acts.foldlRecOn rstep ⟨by intro i hi; simp at hi, none, rfl, by intro i hi; simp at hi⟩ fun s h a _ => rinv_step s a h

/-- Under every interleaving of any number of reader threads — each may find a header without payload, a
    rejected header, or have either transport read raise — every payload read directly follows the header
    read of the same thread: no other thread's read falls between the header and the payload of a message,
    and at most one thread is inside `read_message`'s critical section. -/
theorem c13_readers_do_not_interleave (acts : List RAct) :
    rframed (acts.foldl rstep {}).log = true ∧
    (∀ i j, (acts.foldl rstep {}).pc i ≠ 0 → (acts.foldl rstep {}).pc j ≠ 0 → i = j) := by
  obtain ⟨hmx, st, hst, _⟩ := rinv_run acts
  refine ⟨by simp [rframed, hst], ?_⟩
  exact fun i j => hmx.unique

/-- non-vacuity: two readers alternate, one message without payload, one read failing mid-message -/
example : rframed ([RAct.acquire 1, .acquire 2, .readHdr 1 true, .readHdr 2 true, .readData 1, .release 1, .acquire 2,
    .readHdr 2 false, .release 2, .acquire 1, .readHdr 1 true, .release 1, .acquire 2, .readHdr 2 true,
    .readData 2].foldl rstep {}).log = true := by decide

/-- what the lock is for: without it (a reader entering while another is between header and payload)
    the acceptor rejects the log -/
example : rframed [(1, true), (2, true), (1, false)] = false := by decide

end OpenHTF.AdbFrame
