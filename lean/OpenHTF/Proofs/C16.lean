import OpenHTF.Model.Fastboot
/-
C16 — fastboot: theorems for every device response script, every command/argument string, every
image and every positive chunk size.
-/
namespace OpenHTF.Fastboot

/-- Leading INFO packets are forwarded to the callback, in order, and skipped. -/
theorem accept_infos (e : Hdr) (infos l : List Resp) (hi : ∀ x ∈ infos, x.hdr = .info) :
    accept e (infos ++ l) = (infos.map (fun x => (Hdr.info, x.text)) ++ (accept e l).1, (accept e l).2) := by
  induction infos with
  | nil => rfl
  | cons i is ih =>
    rw [List.cons_append, accept, hi i List.mem_cons_self, ih fun x hx => hi x (List.mem_cons_of_mem _ hx)]
    rfl

/-- The coded response loop computes exactly the declarative state machine "INFO* then one final". -/
theorem c16_accept_eq_spec (e : Hdr) (rs : List Resp) :
    (accept e rs).1 = (Spec.accept e rs).1 ∧ (accept e rs).2.1 = (Spec.accept e rs).2 := by
  -- split `rs` at its first response that is not INFO; the cases below are the headers that response can have
  have h := accept_infos e (rs.takeWhile (·.hdr == .info)) (rs.dropWhile (·.hdr == .info))
    fun x hx => eq_of_beq (List.all_eq_true.mp List.all_takeWhile x hx)
  rw [List.takeWhile_append_dropWhile] at h
  rw [h, Spec.accept]
  have hq := List.head?_dropWhile_not (·.hdr == .info) rs
  cases hd : rs.dropWhile (·.hdr == .info) with
  | nil => simp [accept]
  | cons q qs =>
    rw [hd] at hq
    cases hh : q.hdr
    · simp [hh] at hq
    · by_cases he : e = .okay <;> simp [accept, hh, he, eq_comm (a := Hdr.okay)]
    · by_cases he : e = .data <;> simp [accept, hh, he, eq_comm (a := Hdr.data)]
    · simp [accept, hh]
    · simp [accept, hh]

/-- What each terminating response does, after any number of INFO packets (all forwarded, in order):
    FAIL raises with the device text, an out-of-place OKAY/DATA is a state mismatch, any other header
    an invalid response, the expected one returns its payload. -/
theorem c16_accept_decides (e : Hdr) (infos : List Resp) (r : Resp) (rest : List Resp)
    (hi : ∀ x ∈ infos, x.hdr = .info) (he : e = .okay ∨ e = .data) :
    let res := accept e (infos ++ r :: rest)
    (res.1.filter (·.1 == .info) = (infos ++ (if r.hdr = .info then [r] else [])).map (fun x => (Hdr.info, x.text)) ∨ r.hdr = .info) ∧
    (r.hdr = .fail → res.2.1 = .error (.remoteFailure r.text)) ∧
    (r.hdr = .other → res.2.1 = .error .invalidResponse) ∧
    ((r.hdr = .okay ∨ r.hdr = .data) → r.hdr ≠ e → res.2.1 = .error .stateMismatch) ∧
    (r.hdr = e → res.2.1 = .ok r.text ∧ res.2.2 = rest) := by
  rw [accept_infos e infos _ hi]
  refine ⟨?_, fun hh => ?_, fun hh => ?_, fun hh hne => ?_, fun hh => ?_⟩
  · by_cases hh : r.hdr = .info
    · exact .inr hh
    · -- a terminating response adds no INFO entry to the callback log
      have hcb : (accept e (r :: rest)).1.filter (·.1 == .info) = [] := by
        cases h : r.hdr with
        | info => exact absurd h hh
        | okay | data => simp only [accept, h]; split <;> rfl
        | fail | other => simp only [accept, h]; rfl
      simp only [List.filter_append, hcb, if_neg hh, List.append_nil]
      exact .inl (List.filter_eq_self.2 (by simp))
  · simp only [accept, hh]
  · simp only [accept, hh]
  · rcases hh with hh | hh <;> simp only [accept, hh, if_pos (hh ▸ hne).symm]
  · subst hh
    rcases he with he | he <;> simp [accept, he]

theorem Spec.chunks_nil (c : Nat) : Spec.chunks c [] = [] := by
  rw [Spec.chunks, dif_pos (.inr rfl)]

theorem Spec.chunks_of_ne_nil {c : Nat} (hc : 0 < c) {img : List Nat} (h : img ≠ []) :
    Spec.chunks c img = img.take c :: Spec.chunks c (img.drop c) := by
  rw [Spec.chunks, dif_neg (by simp [h, Nat.ne_of_gt hc])]

theorem writeLoop_eq_chunks (c : Nat) (hc : 0 < c) :
    ∀ (fuel : Nat) (data : List Nat), data.length < fuel →
      writeLoop c fuel data data.length = Spec.chunks c data := by
  intro fuel
  induction fuel with
  | zero => intro _ hf; cases hf
  | succ f ih =>
    intro data hf
    by_cases h : data = []
    · subst h; rw [Spec.chunks_nil]; rfl
    · have hpos := List.length_pos_iff.2 h
      have hd : (data.drop c).length < f :=
        List.length_drop ▸ Nat.lt_of_lt_of_le (Nat.sub_lt hpos hc) (Nat.le_of_lt_succ hf)
      -- the remaining-length counter stays equal to the length of the unread data: `take ++ drop` is the data
      have hl : ((data.length : Int) - ((List.take c data).length : Int)) = ((List.drop c data).length : Int) := by
        rw [Int.sub_eq_iff_eq_add', ← Int.natCast_add, ← List.length_append, List.take_append_drop]
      rw [Spec.chunks_of_ne_nil hc h, writeLoop, if_neg (Int.natCast_ne_zero.2 (Nat.ne_of_gt hpos))]
      simp only [hl, ih _ hd]

/-- The coded loop (remaining-length counter, `read(chunk)`) produces the consecutive pieces. -/
theorem c16_write_eq_chunks (c : Nat) (hc : 0 < c) (data : List Nat) : write c data = Spec.chunks c data :=
  writeLoop_eq_chunks c hc _ data (Nat.lt_succ_self _)

/-- exactly the image, in order -/
theorem c16_chunks_concat (c : Nat) (hc : 0 < c) (img : List Nat) : (write c img).flatten = img := by
  rw [c16_write_eq_chunks c hc]
  induction img using Spec.chunks.induct c with
  | case1 img h => obtain rfl : img = [] := h.resolve_left (Nat.ne_of_gt hc); rw [Spec.chunks_nil]; rfl
  | case2 img h ih => rw [Spec.chunks_of_ne_nil hc (h ∘ .inr), List.flatten_cons, ih, List.take_append_drop]

/-- no chunk larger than the configured chunk size, and no empty chunk -/
theorem c16_chunks_le (c : Nat) (hc : 0 < c) (img : List Nat) :
    ∀ ch ∈ write c img, ch.length ≤ c ∧ 0 < ch.length := by
  rw [c16_write_eq_chunks c hc]
  induction img using Spec.chunks.induct c with
  | case1 img h => obtain rfl : img = [] := h.resolve_left (Nat.ne_of_gt hc); rw [Spec.chunks_nil]; simp
  | case2 img h ih =>
    rw [Spec.chunks_of_ne_nil hc (h ∘ .inr)]
    intro ch hch
    rcases List.mem_cons.mp hch with rfl | hch
    · exact ⟨List.length_take_le c img, List.length_pos_iff.2 (mt List.take_eq_nil_iff.1 h)⟩
    · exact ih ch hch

/-- progress reports are the cumulative byte counts (prefix sums of the chunk lengths) -/
theorem c16_progress_prefix_sums (cs : List (List Nat)) (cur : Nat) :
    progress cur cs = (List.range cs.length).map (fun i => cur + ((cs.take (i + 1)).map List.length).sum) := by
  induction cs generalizing cur with
  | nil => rfl
  | cons c cs ih =>
    rw [progress, ih, List.length_cons, List.range_succ_eq_map, List.map_cons, List.map_map]
    simp [Nat.add_assoc]

/-- the last progress report is the image size -/
theorem c16_progress_total (c : Nat) (hc : 0 < c) (img : List Nat) (hne : img ≠ []) :
    (progress 0 (write c img)).getLast? = some img.length := by
  have hcs : (write c img).length ≠ 0 := by
    rw [c16_write_eq_chunks c hc, Spec.chunks_of_ne_nil hc hne]; simp
  rw [c16_progress_prefix_sums, List.getLast?_map, List.getLast?_range, if_neg hcs, Option.map_some,
    Nat.sub_add_cancel (Nat.pos_of_ne_zero hcs), List.take_length, ← List.length_flatten,
    c16_chunks_concat c hc, Nat.zero_add]

/-- every command (with or without argument) that is non-empty and fits the chunk size is one packet -/
theorem c16_single_packet_command (c : Nat) (cmd : List Nat) (arg : Option (List Nat))
    (hne : cmd ≠ []) (hfit : (cmdString cmd arg).length ≤ c) :
    sendCommand c cmd arg = [cmdString cmd arg] := by
  have hsne : cmdString cmd arg ≠ [] := by cases arg <;> simp [cmdString, hne]
  have hc : 0 < c := Nat.lt_of_lt_of_le (List.length_pos_iff.mpr hsne) hfit
  rw [sendCommand, c16_write_eq_chunks c hc, Spec.chunks_of_ne_nil hc hsne, List.take_of_length_le hfit,
    List.drop_of_length_le hfit, Spec.chunks_nil]

theorem unhexDigit_hexDigit : ∀ d < 16, unhexDigit (hexDigit d) = some d := by decide

/-- Reading the base-16 digits of `n` from the top: the digits above weight `m * 16` and the one at weight `m`. -/
theorem hex_digit_step (n m : Nat) : n / (m * 16) * (m * 16) + n / m % 16 * m = n / m * m := by
  rw [← Nat.div_div_eq_div_mul, Nat.mul_comm m 16, ← Nat.mul_assoc, ← Nat.add_mul, Nat.div_add_mod']

/-- the download size is announced as 8 hex digits and reads back as the same number -/
theorem c16_hex8_roundtrip (n : Nat) (h : n < 4294967296) : (hex8 n).length = 8 ∧ unhex8 (hex8 n) = some n := by
  refine ⟨rfl, ?_⟩
  have hd (m : Nat) : unhexDigit (hexDigit (m % 16)) = some (m % 16) :=
    unhexDigit_hexDigit _ (Nat.mod_lt _ (by decide))
  simp only [unhex8, hex8, List.map_cons, List.map_nil, List.take_succ_cons, List.take_zero, hd]
  -- `omega` proves this too, but the literals are large and it is very slow on them
  rw [Nat.mod_eq_of_lt (Nat.div_lt_of_lt_mul h : n / 268435456 < 16), hex_digit_step n 16777216,
    hex_digit_step n 1048576, hex_digit_step n 65536, hex_digit_step n 4096, hex_digit_step n 256,
    hex_digit_step n 16, Nat.div_add_mod']

/-- a download sends `download:<8 hex digits>` and then, only if the device answered DATA with exactly
    the image size, exactly the image in chunks; otherwise nothing but the command packet is sent. -/
theorem c16_download_bytes (c : Nat) (img : List Nat) (rs : List Resp) :
    let cmdPk := sendCommand c downloadWord (some (hex8 img.length))
    let out := download c img rs
    ((∃ t, (accept .data rs).2.1 = .ok t ∧ unhex8 t = some img.length) →
        out.packets = cmdPk ++ write c img ∧ out.progress = progress 0 (write c img)) ∧
    ((¬ ∃ t, (accept .data rs).2.1 = .ok t ∧ unhex8 t = some img.length) →
        out.packets = cmdPk ∧ (∀ t, out.result ≠ .ok t) ∧ out.progress = []) := by
  intro cmdPk out
  constructor
  · rintro ⟨t, ht, hu⟩
    simp only [out, download, ht, hu]
    simp [cmdPk]
  · intro hn
    simp only [out, download]
    cases hx : (accept Hdr.data rs).2.1 with
    | error e => simp [cmdPk]
    | ok t =>
      cases hu : unhex8 t with
      | none => simp [hu, cmdPk]
      | some sz =>
        have : sz ≠ img.length := by
          intro e; exact hn ⟨t, hx, by rw [hu, e]⟩
        simp [hu, this, cmdPk]

/-- a refused size is a transfer error -/
theorem c16_size_mismatch_is_transfer_error (c : Nat) (img : List Nat) (rs : List Resp) (t : List Nat) (sz : Nat)
    (ht : (accept .data rs).2.1 = .ok t) (hu : unhex8 t = some sz) (hne : sz ≠ img.length) :
    (download c img rs).result = .error .transfer := by
  simp [download, ht, hu, hne]

/-- non-vacuity: a script on which the download goes through -/
example : (download 4 [1,2,3,4,5,6,7,8,9] [⟨.info, [1]⟩, ⟨.data, hex8 9⟩, ⟨.okay, [7]⟩]).packets.length = 8 ∧
    (download 4 [1,2,3,4,5,6,7,8,9] [⟨.info, [1]⟩, ⟨.data, hex8 9⟩, ⟨.okay, [7]⟩]).progress = [4, 8, 9] := by decide

end OpenHTF.Fastboot
