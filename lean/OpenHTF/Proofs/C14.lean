import OpenHTF.Model.AdbMux
import OpenHTF.Proofs.Lemmas.Lts
import OpenHTF.Proofs.C16
/-
C14 — ADB streams: conservation (in-order, exactly-once, no cross-talk), acknowledgements, chunking,
one WRTE in flight, no lost wake-up. Every theorem is for all action sequences the models accept:
any number of streams / threads, any device interleaving, any schedule.
-/
namespace OpenHTF.AdbMux

def nWrte (s : Nat) (consumed : List Msg) : Nat := (consumed.filter (isWrteFor s)).length

def StrInv (s : S) (i : Nat) : Prop :=
  (s.strs i).delivered ++ (s.strs i).buffer ++ payloads (s.strs i).inHand ++ payloads (s.strs i).queue = written i s.consumed ∧
  (s.strs i).acks = nWrte i s.consumed ∧
  ∀ m ∈ (s.strs i).queue, m.sid = i

def Inv (s : S) : Prop := ∀ i, StrInv s i

@[simp] theorem payloads_nil : payloads [] = [] := rfl

@[simp] theorem payloads_cons (m : Msg) (l : List Msg) : payloads (m :: l) = payload m ++ payloads l := rfl

theorem payloads_append (a b : List Msg) : payloads (a ++ b) = payloads a ++ payloads b := List.flatMap_append

theorem written_append (i : Nat) (a b : List Msg) : written i (a ++ b) = written i a ++ written i b := by
  simp only [written, List.filter_append, payloads_append]

theorem nWrte_append (i : Nat) (a b : List Msg) : nWrte i (a ++ b) = nWrte i a + nWrte i b := by
  simp only [nWrte, List.filter_append, List.length_append]

theorem written_self {r : Nat} {ms : List Msg} (h : ∀ m ∈ ms, m.sid = r) : written r ms = payloads ms := by
  rw [written, List.filter_eq_self.2 fun m hm => decide_eq_true (h m hm)]

theorem written_other {r i : Nat} {ms : List Msg} (h : ∀ m ∈ ms, m.sid = r) (hir : i ≠ r) : written i ms = [] := by
  rw [written, List.filter_eq_nil_iff.2 fun m hm e => hir ((of_decide_eq_true e).symm.trans (h m hm))]; rfl

theorem nWrte_other {r i : Nat} {ms : List Msg} (h : ∀ m ∈ ms, m.sid = r) (hir : i ≠ r) : nWrte i ms = 0 := by
  rw [nWrte, List.filter_eq_nil_iff.2 fun m hm e =>
    hir ((of_decide_eq_true (Bool.and_eq_true_iff.1 e).2).symm.trans (h m hm))]
  rfl

theorem inv_init : Inv {} := by
  intro i; simp [StrInv, written, nWrte]

/-- the bytes a stream holds, in the order the device wrote them -/
def bytes (st : Str) : List Nat := st.delivered ++ st.buffer ++ payloads st.inHand ++ payloads st.queue

/-- A step of stream `r`: it takes the messages `ms`, all addressed to `r`, off the transport, acknowledges the WRTEs
    among them, puts their bytes behind those it holds (which may move on towards the application), and queues nothing
    else. The other streams see none of this. -/
theorem inv_upd {s s' : S} {r : Nat} {st : Str} (ms : List Msg) (h : Inv s) (hstrs : s'.strs = upd s.strs r st)
    (hcons : s'.consumed = s.consumed ++ ms) (hms : ∀ m ∈ ms, m.sid = r)
    (hbytes : bytes st = bytes (s.strs r) ++ payloads ms) (hacks : st.acks = (s.strs r).acks + nWrte r ms)
    (hqueue : ∀ m ∈ st.queue, m ∈ (s.strs r).queue ∨ m ∈ ms) : Inv s' := by
  intro i
  obtain ⟨hb, ha, hq⟩ := h i
  by_cases hir : i = r
  · subst hir
    simp only [StrInv, hstrs, upd, if_true, hcons, written_append, nWrte_append, written_self hms, ← hb, ← ha]
    exact ⟨hbytes, hacks, fun m hm => (hqueue m hm).elim (hq m) (hms m)⟩
  · simp only [StrInv, hstrs, upd, hir, if_false, hcons, written_append, nWrte_append, written_other hms hir,
      nWrte_other hms hir, List.append_nil]
    exact ⟨hb, ha, hq⟩

@[simp] theorem ack_buffer (st : Str) (m : Msg) : (ack st m).buffer = st.buffer := by unfold ack; split <;> rfl
@[simp] theorem ack_delivered (st : Str) (m : Msg) : (ack st m).delivered = st.delivered := by unfold ack; split <;> rfl
@[simp] theorem ack_queue (st : Str) (m : Msg) : (ack st m).queue = st.queue := by unfold ack; split <;> rfl
@[simp] theorem ack_inHand (st : Str) (m : Msg) : (ack st m).inHand = st.inHand := by unfold ack; split <;> rfl
theorem ack_acks (st : Str) (m : Msg) : (ack st m).acks = st.acks + nWrte m.sid [m] := by
  unfold ack nWrte; split <;> simp [isWrteFor, *]

theorem inv_step (s s' : S) (a : Act) (h : Inv s) (hs : step s a = some s') : Inv s' := by
  cases a with
  | readOwn r m =>
    obtain ⟨⟨rfl, hq, hh⟩, rfl⟩ := Lts.guarded hs
    exact inv_upd [m] h rfl rfl (List.forall_mem_singleton.2 rfl) (by simp [bytes, hq, hh]) (ack_acks ..) (by simp [hq])
  | readOther r d m =>
    obtain ⟨⟨rfl, _⟩, rfl⟩ := Lts.guarded hs
    exact inv_upd [m] h rfl rfl (List.forall_mem_singleton.2 rfl) (by simp [bytes, payloads_append]) (ack_acks ..)
      (by simp)
  | dequeue r =>
    simp only [step] at hs
    split at hs
    · cases hs
    · rename_i m rest hq
      simp only [Option.ite_none_right_eq_some, Option.some.injEq] at hs
      obtain ⟨hh, rfl⟩ := hs
      exact inv_upd [] h rfl (List.append_nil _).symm nofun (by simp [bytes, hq, hh]) rfl (by simp +contextual [hq])
  | handleMsg r =>
    simp only [step] at hs
    split at hs
    · rename_i m hh
      cases hs
      exact inv_upd [] h rfl (List.append_nil _).symm nofun (by simp [bytes, handle, hh]) rfl (by simp [handle])
    · cases hs
  | appRead r n =>
    simp only [step, Option.ite_none_left_eq_some, Option.some.injEq] at hs
    obtain ⟨_, rfl⟩ := hs
    exact inv_upd [] h rfl (List.append_nil _).symm nofun (by simp [bytes]) rfl (by simp)

theorem reach_inv {as : List Act} {s : S} (hr : run {} as = some s) : Inv s :=
  Lts.run_induction step run (fun _ => rfl) (fun _ _ _ => rfl) Inv inv_step as {} s inv_init hr

/-- C14 conservation: for every stream, what the application got, what is buffered and what is queued is
    exactly what the device wrote to that stream, in order. -/
theorem c14_conservation (as : List Act) (s : S) (hr : run {} as = some s) (i : Nat) :
    (s.strs i).delivered ++ (s.strs i).buffer ++ payloads (s.strs i).inHand ++ payloads (s.strs i).queue =
      written i s.consumed :=
  (reach_inv hr i).1

/-- in order, exactly once, no bytes of another stream: the delivered bytes are a prefix of the bytes the
    device wrote to THAT stream -/
theorem c14_in_order_exactly_once_no_cross_talk (as : List Act) (s : S) (hr : run {} as = some s) (i : Nat) :
    (s.strs i).delivered <+: written i s.consumed := by
  rw [← c14_conservation as s hr i, List.append_assoc, List.append_assoc]
  exact List.prefix_append _ _

/-- every WRTE the device sent to a stream was acknowledged by exactly one OKAY for that stream -/
theorem c14_one_okay_per_wrte (as : List Act) (s : S) (hr : run {} as = some s) (i : Nat) :
    (s.strs i).acks = nWrte i s.consumed := (reach_inv hr i).2.1

/-- when everything consumed has been read by the application, it got exactly what the device wrote -/
theorem c14_drained_stream_got_everything (as : List Act) (s : S) (hr : run {} as = some s) (i : Nat)
    (hb : (s.strs i).buffer = []) (hh : (s.strs i).inHand = []) (hq : (s.strs i).queue = []) :
    (s.strs i).delivered = written i s.consumed := by
  have := c14_conservation as s hr i
  simpa [hb, hh, hq, payloads] using this

theorem chunks_eq_fastboot (maxdata : Nat) (data : List Nat) : chunks maxdata data = Fastboot.Spec.chunks maxdata data := by
  induction data using chunks.induct maxdata with
  | case1 data h => rw [chunks, Fastboot.Spec.chunks, dif_pos h, dif_pos h.symm]
  | case2 data h ih => rw [chunks, Fastboot.Spec.chunks, dif_neg h, dif_neg (h ∘ Or.symm), ih]

/-- C14: a host write is split into non-empty chunks no larger than maxdata whose concatenation is the data -/
theorem c14_chunks (maxdata : Nat) (hm : 0 < maxdata) (data : List Nat) :
    (chunks maxdata data).flatten = data ∧ ∀ c ∈ chunks maxdata data, c.length ≤ maxdata ∧ c ≠ [] := by
  rw [chunks_eq_fastboot, ← Fastboot.c16_write_eq_chunks maxdata hm]
  refine ⟨Fastboot.c16_chunks_concat maxdata hm data, fun c hc => ?_⟩
  have h := Fastboot.c16_chunks_le maxdata hm data c hc
  exact ⟨h.1, List.ne_nil_of_length_pos h.2⟩

/-- the lock is held by the one writer between `lock` and `done`/`giveUp`; until a write gives up, the count of
    unacknowledged WRTEs is the `_expecting_okay` flag, which is only up while the holder has sent -/
def WrInv (s : WrS) : Prop :=
  (∀ w, s.lockHeld = some w ↔ s.pcs w = 2 ∨ s.pcs w = 3) ∧
  (s.failed = false → s.unacked = if s.expecting then 1 else 0) ∧
  (s.failed = false → s.expecting = true → ∃ w, s.lockHeld = some w ∧ s.pcs w = 3)

theorem wr_inv_init : WrInv {} := by simp [WrInv]

theorem wr_inv_step (s s' : WrS) (a : WrAct) (h : WrInv s) (hs : wrStep s a = some s') : WrInv s' := by
  cases a <;> obtain ⟨hc, rfl⟩ := Lts.guarded hs <;>
    simp only [WrInv, updN] at h ⊢ <;> grind

theorem wr_reach_inv {as : List WrAct} {s : WrS} (hr : wrRun {} as = some s) : WrInv s :=
  Lts.run_induction wrStep wrRun (fun _ => rfl) (fun _ _ _ => rfl) WrInv wr_inv_step as {} s wr_inv_init hr

/-- C14: as long as no write has given up with its WRTE unacknowledged, a stream never has more than one
    unacknowledged WRTE outstanding, for any number of concurrent writers and any schedule -/
theorem c14_one_wrte_in_flight (as : List WrAct) (s : WrS) (hr : wrRun {} as = some s) (hf : s.failed = false) :
    s.unacked ≤ 1 := by
  rw [(wr_reach_inv hr).2.1 hf]
  split <;> omega

/-- C14: whoever handles the device's acknowledgement of a write (the writer itself or a concurrent reader of the
    stream) finds the stream expecting it: the flag is raised together with the WRTE going out -/
theorem c14_write_ack_is_expected (as : List WrAct) (s : WrS) (hr : wrRun {} as = some s) (hf : s.failed = false)
    (hu : 0 < s.unacked) : s.expecting = true := by
  rw [(wr_reach_inv hr).2.1 hf] at hu
  split at hu
  · assumption
  · omega

/-- raising the flag only after the WRTE went out is not safe: the acknowledgement can be handled in between and is
    then 'unexpected' (the reader raises AdbProtocolError, the writer times out) -/
theorem late_expecting_flag_makes_the_ack_unexpected :
    ∃ s, wrLateRun {} [.send, .okay, .mark] = some s ∧ s.unexpectedOkay = true ∧ s.expecting = true ∧ s.unacked = 0 := by
  refine ⟨_, rfl, ?_⟩
  decide

/-- thread `t`'s part in the wake-up protocol; `owed` is what it is all for: while somebody waits, or `t` is about to
    (pc 10, still holding the condition's lock), the reader lock is taken or a notification is owed -/
structure WkInv (s : WkS) (t : Nat) : Prop where
  reader : s.readerHeld = some t → s.pcs t = 2
  cond : s.condHeld = some t ↔ (s.pcs t = 1 ∨ s.pcs t = 10 ∨ s.pcs t = 5 ∨ s.pcs t = 8)
  pending : t ∈ s.pending → (s.pcs t = 4 ∨ s.pcs t = 5)
  waiting : t ∈ s.waiters → s.pcs t = 6
  owed : (s.waiters ≠ [] ∨ s.pcs t = 10) → s.readerHeld ≠ none ∨ s.pending ≠ []

theorem wk_inv_step (s s' : WkS) (a : WkAct) (h : ∀ t, WkInv s t) (hs : wkStep s a = some s') (j : Nat) : WkInv s' j := by
  -- what holds of `j` afterwards follows from what held of `j` and of the thread `t` that moves; the five fields as one
  -- goal, so that one `grind` call per action sees them together
  obtain ⟨j1, j2, j3, j4, j5⟩ := h j
  suffices h : _ ∧ _ ∧ _ ∧ _ ∧ _ from ⟨h.1, h.2.1, h.2.2.1, h.2.2.2.1, h.2.2.2.2⟩
  cases a <;> obtain ⟨hc, rfl⟩ := Lts.guarded hs <;>
    rename_i t <;> obtain ⟨t1, t2, t3, t4, t5⟩ := h t <;> simp only [updN] <;> grind

theorem wk_reach_inv {as : List WkAct} {s : WkS} (hr : wkRun {} as = some s) : ∀ t, WkInv s t :=
  Lts.run_induction wkStep wkRun (fun _ => rfl) (fun _ _ _ => rfl) (fun s => ∀ t, WkInv s t) wk_inv_step as {} s
    (fun t => by constructor <;> simp) hr

/-- C14, no lost wake-up: under every schedule, whenever some thread is blocked in `wait()` on the stream's
    condition, either a thread holds the reader lock (it will release it and notify) or a thread that released
    it still owes its notification. A waiter is never left with nobody to wake it. -/
theorem c14_no_lost_wakeup (as : List WkAct) (s : WkS) (hr : wkRun {} as = some s) (hw : s.waiters ≠ []) :
    s.readerHeld ≠ none ∨ s.pending ≠ [] := (wk_reach_inv hr 0).owed (Or.inl hw)

/-- ... and the thread that owes the notification can always move: its next step needs the condition's lock,
    whose holder (if any) always has an enabled step of its own that releases it -/
theorem c14_notifier_can_move (as : List WkAct) (s : WkS) (hr : wkRun {} as = some s) :
    (∀ t, t ∈ s.pending → s.condHeld = none → (wkStep s (.notifyAcq t)).isSome = true ∨ (wkStep s (.notify t)).isSome = true) ∧
    (∀ u, s.condHeld = some u →
       (wkStep s (.becomeReader u)).isSome = true ∨ (wkStep s (.tryFail u)).isSome = true ∨ (wkStep s (.wait u)).isSome = true ∨
       (wkStep s (.notify u)).isSome = true ∨ (wkStep s (.wakeRelease u)).isSome = true) ∧
    (∀ t, s.readerHeld = some t → (wkStep s (.readerDone t)).isSome = true) := by
  have h := wk_reach_inv hr
  refine ⟨fun t ht hc => ?_, fun u hu => ?_, fun t ht => Lts.enabled ((h t).reader ht)⟩
  · exact ((h t).pending ht).imp (fun hp => Lts.enabled ⟨hp, hc⟩) Lts.enabled
  · -- by the pc at which `u` holds the condition's lock
    rcases (h u).cond.mp hu with hp | hp | hp | hp
    · by_cases hr' : s.readerHeld = none
      · exact .inl (Lts.enabled ⟨hp, hr'⟩)
      · exact .inr (.inl (Lts.enabled ⟨hp, hr'⟩))
    · exact .inr (.inr (.inl (Lts.enabled hp)))
    · exact .inr (.inr (.inr (.inl (Lts.enabled hp))))
    · exact .inr (.inr (.inr (.inr (Lts.enabled hp))))

/-- the model with the order of the two steps swapped, as before the `fix:` commit: notify while still holding the reader lock -/
def wkStepOld (s : WkS) : WkAct → Option WkS
  | .notify t =>   -- notify while holding the reader lock (pc 2), keeps the lock
    if s.pcs t = 2 ∧ s.condHeld = none then
      some { s with waiters := [], pcs := fun j => if j = t then 3 else if j ∈ s.waiters then 7 else s.pcs j }
    else none
  | .readerDone t => if s.pcs t = 3 then some { s with readerHeld := none, pcs := updN s.pcs t 0 } else none
  | a => wkStep s a

def wkRunOld (s : WkS) : List WkAct → Option WkS
  | [] => some s
  | a :: as => (wkStepOld s a).bind (wkRunOld · as)

/-- the protocol before the `fix:` commit is NOT safe: after the notification the woken thread finds the reader lock
    still taken, waits again, and when the reader leaves nobody owes a notification any more -/
theorem old_protocol_loses_a_wakeup :
    ∃ s, wkRunOld {} [.condAcq 0, .becomeReader 0, .condAcq 1, .tryFail 1, .wait 1, .notify 0, .reacquire 1, .wakeRelease 1,
                      .condAcq 1, .tryFail 1, .wait 1, .readerDone 0, .leave 0] = some s ∧
      s.waiters = [1] ∧ s.readerHeld = none ∧ s.pending = [] ∧ s.pcs 0 = 9 := by
  refine ⟨_, rfl, ?_, ?_, ?_, ?_⟩ <;> decide

end OpenHTF.AdbMux
