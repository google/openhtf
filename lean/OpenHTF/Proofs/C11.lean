import OpenHTF.Model.Heap
/-
C11 — runs are isolated, derived phases are copies: frame theorems over the heap model. Every derive
operation only allocates (old addresses keep their objects), writes go to addresses allocated by the same
operation, writes of two runs to disjoint owned regions commute.
-/
namespace OpenHTF.Heap

theorem Extends.refl (h : Heap) : Extends h h := List.prefix_refl _
theorem Extends.trans {a b c : Heap} (h1 : Extends a b) (h2 : Extends b c) : Extends a c := List.IsPrefix.trans h1 h2

theorem Extends.size_le {h h' : Heap} (e : Extends h h') : h.size ≤ h'.size := List.IsPrefix.length_le e

theorem extends_iff_get {h h' : Heap} : Extends h h' ↔ ∀ a, a < h.size → h'.get a = h.get a := by
  simp only [Extends, List.prefix_iff_getElem?, Heap.get, Heap.size]
  exact forall_congr' fun a => forall_congr' fun ha => by rw [List.getElem?_eq_getElem ha]

theorem Extends.get {h h' : Heap} (e : Extends h h') (a : Nat) (ha : a < h.size) : h'.get a = h.get a :=
  extends_iff_get.mp e a ha

theorem alloc_extends (h : Heap) (o : Obj) : Extends h (h.alloc o).1 := List.prefix_append _ _

theorem alloc_fresh (h : Heap) (o : Obj) : (h.alloc o).2 = h.size := rfl

/-- a write is `List.modify` on the object list, whose lemmas then apply -/
theorem setField_eq_modify (h : Heap) (a i : Nat) (v : Val) :
    h.setField a i v = ⟨h.objs.modify a fun o => { o with fields := o.fields.set i v }⟩ := by
  unfold Heap.setField
  split
  · next hn => rw [List.modify_eq_self (List.getElem?_eq_none_iff.mp hn)]
  · next o ho =>
    congr 1
    ext1 j
    by_cases hj : a = j
    · obtain ⟨hlt, rfl⟩ := List.getElem?_eq_some_iff.mp ho
      simp [← hj, hlt]
    · simp [hj]

theorem setField_size (h : Heap) (a i : Nat) (v : Val) : (h.setField a i v).size = h.size := by
  rw [setField_eq_modify]
  exact List.length_modify ..

theorem setField_get_ne (h : Heap) (a b i : Nat) (v : Val) (hne : a ≠ b) : (h.setField a i v).get b = h.get b := by
  rw [setField_eq_modify]
  exact List.getElem?_modify_ne _ _ hne

/-- C11 (concurrent runs): writes to different objects commute, so the order in which two runs that own disjoint
    objects are interleaved does not matter -/
theorem c11_writes_to_different_objects_commute (h : Heap) (a b i j : Nat) (v w : Val) (hne : a ≠ b) :
    (h.setField a i v).setField b j w = (h.setField b j w).setField a i v := by
  simp only [setField_eq_modify]
  rw [List.modify_modify_ne _ _ _ hne]

theorem Extends.setField {h0 h : Heap} {a i : Nat} {v : Val} (e : Extends h0 h) (ha : h0.size ≤ a) :
    Extends h0 (h.setField a i v) :=
  extends_iff_get.mpr fun b hb => (setField_get_ne h a b i v (by omega)).trans (e.get b hb)

theorem shallowCopy_extends (h : Heap) (a : Nat) : Extends h (shallowCopy h a).1 := by
  unfold shallowCopy
  split
  · exact .refl h
  · split
    · exact .refl h
    · exact alloc_extends h _

/-- the per-field rule only allocates if `attr_copy` at the same fuel does -/
theorem copyFields_extends_of (fuel : Nat) (hA : ∀ h a, Extends h (attrCopy fuel h a).1) :
    ∀ (vs : List Val) (h : Heap), Extends h (copyFields fuel h vs).1
  | [], h => by unfold copyFields; exact .refl h
  | .atom n :: vs, h => by unfold copyFields; exact copyFields_extends_of fuel hA vs h
  | .ref b :: vs, h => by
    unfold copyFields
    refine .trans ?_ (copyFields_extends_of fuel hA vs _)
    split
    · split
      · exact hA h b
      · exact shallowCopy_extends h b
    · exact .refl h

theorem attrCopy_extends (fuel : Nat) (h : Heap) (a : Nat) : Extends h (attrCopy fuel h a).1 := by
  induction fuel generalizing h a with
  | zero => unfold attrCopy; exact .refl h
  | succ fuel ih =>
    unfold attrCopy
    split
    · exact .refl h
    · exact (copyFields_extends_of fuel ih _ h).trans (alloc_extends _ _)

theorem copyFields_extends (fuel : Nat) (h : Heap) (vs : List Val) : Extends h (copyFields fuel h vs).1 :=
  copyFields_extends_of fuel (attrCopy_extends fuel) vs h

theorem copyElems_extends (fuel : Nat) (h : Heap) (l : Nat) : Extends h (copyElems fuel h l).1 := by
  unfold copyElems
  split
  · exact .refl h
  · exact (copyFields_extends fuel h _).trans (alloc_extends _ _)

/-- the copy of an existing object is a NEW object: its address was not in the heap before -/
theorem attrCopy_fresh (fuel : Nat) (h : Heap) (a : Nat) (o : Obj) (ha : h.get a = some o) :
    h.size ≤ (attrCopy (fuel + 1) h a).2 := by
  simp only [attrCopy, ha, Heap.alloc]
  exact (copyFields_extends fuel h o.fields).size_le

theorem attrCopy_root_ge (fuel : Nat) (h : Heap) (p : Nat) :
    (attrCopy fuel h p).2 = p ∨ h.size ≤ (attrCopy fuel h p).2 := by
  cases fuel with
  | zero => left; simp [attrCopy]
  | succ f =>
    cases hg : h.get p with
    | none => left; simp [attrCopy, hg]
    | some o => right; exact attrCopy_fresh f h p o hg

theorem attrCopy_root_fresh (fuel : Nat) (h : Heap) (p : Nat) (o : Obj)
    (hg : (attrCopy (fuel + 1) h p).1.get (attrCopy (fuel + 1) h p).2 = some o) :
    h.size ≤ (attrCopy (fuel + 1) h p).2 := by
  cases hp : h.get p with
  | none => simp [attrCopy, hp] at hg
  | some o' => exact attrCopy_fresh fuel h p o' hp

/-- every derive operation is `attr_copy` of the phase, then allocations, then writes to the fresh root -/
theorem derive_spec (fuel : Nat) (h : Heap) (p : Nat) (op : Derive) :
    Extends h (derive fuel h p op).1 ∧ (derive fuel h p op).2 = (attrCopy (fuel + 1) h p).2 := by
  have e1 := attrCopy_extends (fuel + 1) h p
  cases op with
  | copy | withPlugsNone => exact ⟨e1, rfl⟩
  | withArgs =>
    simp only [derive]
    split
    · exact ⟨e1, rfl⟩
    · next o hg =>
      split
      · exact ⟨.setField (e1.trans (copyElems_extends ..)) (attrCopy_root_fresh fuel h p o hg), rfl⟩
      · exact ⟨e1, rfl⟩
  | withPlugsMatch =>
    simp only [derive]
    split
    · exact ⟨e1, rfl⟩
    · next o hg =>
      have hr := attrCopy_root_fresh fuel h p o hg
      split
      · exact ⟨.setField (.setField ((e1.trans (copyElems_extends ..)).trans (copyElems_extends ..)) hr) hr, rfl⟩
      · exact ⟨e1, rfl⟩

/-- C11: every way of deriving a phase only allocates: the phase it was derived from, and everything reachable
    from it, is exactly as before -/
theorem c11_derive_leaves_original_unchanged (fuel : Nat) (h : Heap) (p : Nat) (op : Derive) :
    Extends h (derive fuel h p op).1 :=
  (derive_spec fuel h p op).1

/-- the derived phase is a new object (never the phase it was derived from), for every derive operation -/
theorem c11_derived_phase_is_a_new_object (fuel : Nat) (h : Heap) (p : Nat) (o : Obj) (hp : h.get p = some o)
    (op : Derive) : h.size ≤ (derive fuel h p op).2 :=
  (derive_spec fuel h p op).2 ▸ attrCopy_fresh fuel h p o hp

def deriveAll (fuel : Nat) : Heap → List (Nat × Derive) → Heap
  | h, [] => h
  | h, (p, op) :: rest => deriveAll fuel (derive fuel h p op).1 rest

/-- any sequence of derive operations (each applied to any phase that exists by then) leaves every object that
    existed at the start unchanged -/
theorem c11_histories_of_derivations_leave_originals_unchanged (fuel : Nat) (h : Heap) (ops : List (Nat × Derive)) :
    Extends h (deriveAll fuel h ops) := by
  induction ops generalizing h with
  | nil => exact .refl h
  | cons x rest ih => exact (c11_derive_leaves_original_unchanged fuel h x.1 x.2).trans (ih _)

def applyWrites (h : Heap) (ws : List (Nat × Nat × Val)) : Heap :=
  ws.foldl (fun h w => h.setField w.1 w.2.1 w.2.2) h

/-- C11: a run that only writes to objects it allocated itself (its deep copies of the measurements, its phase
    states, its record, its plug and diagnoses managers) leaves every descriptor object unchanged -/
theorem c11_run_writes_only_run_owned (h0 h : Heap) (ws : List (Nat × Nat × Val)) (e : Extends h0 h)
    (hown : ∀ w ∈ ws, h0.size ≤ w.1) : Extends h0 (applyWrites h ws) :=
  ws.foldlRecOn _ e fun _ e w hw => e.setField (hown w hw)

end OpenHTF.Heap
