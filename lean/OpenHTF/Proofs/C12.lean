import OpenHTF.Model.Kill
import OpenHTF.Proofs.Lemmas.Lts
/-
C12 — thread kill (all interleavings of any number of kill() callers with the target thread's
start / lock / body / handlers / exit) and the deadline-polling join (all durations, deadlines, poll
intervals).
-/
namespace OpenHTF.Kill

def KInv (s : S) (k : Nat) : Prop :=
  let kk := s.ks k
  (kk.pc = 0 ∨ kk.pc = 1 ∨ kk.pc = 2 ∨ kk.pc = 3 ∨ kk.pc = 4 ∨ kk.pc = 9) ∧
  (1 ≤ kk.pc → s.t.killed = true) ∧
  -- a kill requested after the body returned never gets as far as raising
  (kk.afterBody = true → kk.pc ≠ 3 ∧ kk.pc ≠ 4) ∧
  (kk.afterBody = true → 1 ≤ kk.pc ∧ 4 ≤ s.t.pc) ∧
  -- a killer that saw the body running was called while the thread was already started
  ((kk.pc = 3 ∨ kk.pc = 4) → 2 ≤ s.t.pc)

def TInv (s : S) : Prop :=
  (s.t.pc ≤ 5) ∧
  (s.t.killedBeforeStart = true → s.t.killed = true ∧ s.t.bodyRan = false) ∧
  (s.t.pc ≤ 2 → s.t.bodyRan = false) ∧
  (s.t.pc = 0 → s.t.pending = false ∧ s.t.raises = 0 ∧ s.t.killedBeforeStart = false) ∧
  (s.t.pending = true → 1 ≤ s.t.raises) ∧
  ((s.t.raisedInBody = true ∨ s.t.raisedInHandlers = true) → 1 ≤ s.t.raises) ∧
  (s.t.raisedInBody = true → s.t.bodyRan = true) ∧
  (s.t.pending = true → 2 ≤ s.t.pc) ∧
  (s.t.pc = 3 → s.t.bodyRan = true)

/-- an effective raise was issued by a kill() that was requested while the body had not yet returned -/
def RInv (s : S) : Prop := 1 ≤ s.t.raises → ∃ k, (s.ks k).pc ≠ 0 ∧ (s.ks k).afterBody = false

def Inv (s : S) : Prop := TInv s ∧ (∀ k, KInv s k) ∧ RInv s

theorem inv_init : Inv {} := by
  refine ⟨by simp [TInv], fun k => by simp [KInv], by simp [RInv]⟩

/-- `KInv` reads the target only through `killed`, which it wants set, and through lower bounds on its `pc` -/
theorem KInv.mono {s s' : S} {k : Nat} (h : KInv s k) (hks : s'.ks k = s.ks k)
    (hkl : s.t.killed = true → s'.t.killed = true) (hpc : s.t.pc ≤ s'.t.pc) : KInv s' k := by
  simp only [KInv, hks] at h ⊢
  grind

/-- a step of killer `i`: the other killers are covered by `KInv.mono`, only `i` itself is left to check -/
theorem kinv_updK {s s' : S} {i : Nat} {kk : K} (hk : ∀ k, KInv s k) (hks : s'.ks = updK s.ks i kk)
    (hkl : s.t.killed = true → s'.t.killed = true) (hpc : s.t.pc ≤ s'.t.pc) (hi : KInv s' i) (k : Nat) : KInv s' k := by
  by_cases hki : k = i
  · exact hki ▸ hi
  · exact (hk k).mono (by simp [hks, updK, hki]) hkl hpc

/-- a step of killer `i` that issues no raise keeps the witness of `RInv`, provided `i` stays started and, if it was
    started before, keeps its `afterBody` -/
theorem rinv_updK {s s' : S} {i : Nat} {kk : K} (hr : RInv s) (hks : s'.ks = updK s.ks i kk)
    (hra : s'.t.raises = s.t.raises) (hpc : kk.pc ≠ 0) (hab : (s.ks i).pc ≠ 0 → kk.afterBody = (s.ks i).afterBody) :
    RInv s' := by
  intro h1
  obtain ⟨w, hw0, hwa⟩ := hr (hra ▸ h1)
  refine ⟨w, ?_⟩
  rw [hks]
  by_cases hwi : w = i
  · subst hwi; simp [updK, hpc, hab hw0, hwa]
  · simp [updK, hwi, hw0, hwa]

theorem inv_step (s s' : S) (a : Act) (h : Inv s) (hs : step s a = some s') : Inv s' := by
  obtain ⟨ht, hk, hr⟩ := h
  cases a <;> obtain ⟨hc, e⟩ := Lts.guard hs <;> clear hs
  case tBody | tHandler => exact Option.some.inj e ▸ ⟨ht, hk, hr⟩
  case start | tAcq | tCheck | tBodyEnd | tFinish | tDeliver =>
    -- actions of the target thread touch neither the killers nor `raises`: `RInv` is the same statement
    (repeat' split at e) <;> cases e <;>
      exact ⟨by simp only [TInv] at ht ⊢; grind, fun k => (hk k).mono rfl id (by simp only; omega), hr⟩
  case kSet i =>
    cases e
    refine ⟨by simp only [TInv] at ht ⊢; grind, kinv_updK hk rfl (fun _ => rfl) (Nat.le_refl _) ?_,
      rinv_updK hr rfl rfl (by simp) (fun h => absurd hc h)⟩
    have hi := hk i
    simp only [KInv, updK, if_true] at hi ⊢
    grind
  case kAlive i | kTry i | kRaiseCheck i =>
    cases e
    refine ⟨ht, kinv_updK hk rfl id (Nat.le_refl _) ?_,
      rinv_updK hr rfl rfl (by simp only; split <;> simp) (fun _ => rfl)⟩
    have hi := hk i
    -- what the two is-alive tests find does not matter here, only what the lock test finds
    simp only [KInv, updK, if_true, lockHeld] at hi ⊢
    grind
  case kRaise i =>
    cases e
    have hi := hk i
    refine ⟨?_, kinv_updK hk rfl ?_ ?_ ?_, fun _ => ⟨i, ?_⟩⟩
    · have h2 : 2 ≤ s.t.pc := hi.2.2.2.2 (.inr hc)
      simp only [TInv] at ht ⊢; grind
    · split <;> exact id
    · split <;> exact Nat.le_refl _
    · simp only [KInv, updK, if_true] at hi ⊢; grind
    · simp only [KInv] at hi
      simp [updK, Bool.eq_false_iff.2 fun hab => (hi.2.2.1 hab).2 hc]

theorem reach_inv {as : List Act} {s : S} (hr : run {} as = some s) : Inv s :=
  Lts.run_induction step run (fun _ => rfl) (fun _ _ _ => rfl) Inv inv_step as {} s inv_init hr

/-- C12: a kill requested before the thread was started prevents its body from ever running, under
    every interleaving and whatever happens later. -/
theorem c12_kill_before_start_no_body (as : List Act) (s : S) (hr : run {} as = some s)
    (h : s.t.killedBeforeStart = true) : s.t.bodyRan = false :=
  ((reach_inv hr).1.2.1 h).2

/-- the flag seen at start is the flag: if any kill() had set `_killed` before `start`, it is recorded -/
theorem c12_killed_flag_never_cleared (s s' : S) (a : Act) (hs : step s a = some s')
    (h : s.t.killed = true) : s'.t.killed = true := by
  cases a <;> obtain ⟨_, hs⟩ := Lts.guard hs
  case tCheck | tDeliver => (repeat' split at hs) <;> cases hs <;> exact h
  case kSet => cases hs; rfl
  case kRaise => cases hs; simp only; split <;> exact h
  all_goals exact Option.some.inj hs ▸ h

/-- a kill() that is requested after the body returned (handlers running, or thread finished) never
    issues an asynchronous exception: it returns at the is-alive or at the running-lock test. -/
theorem c12_kill_after_body_no_raise (as : List Act) (s : S) (hr : run {} as = some s) (k : Nat)
    (h : (s.ks k).afterBody = true) : (s.ks k).pc ≠ 3 ∧ (s.ks k).pc ≠ 4 :=
  ((reach_inv hr).2.1 k).2.2.1 h

/-- every SetAsyncExc that takes effect is performed by a kill() that saw the body running, and no
    exception is ever pending or delivered without one -/
theorem c12_no_exception_without_effective_raise (as : List Act) (s : S) (hr : run {} as = some s) :
    (s.t.pending = true ∨ s.t.raisedInBody = true ∨ s.t.raisedInHandlers = true) → 1 ≤ s.t.raises := by
  obtain ⟨-, -, -, -, hpend, hraised, -⟩ := (reach_inv hr).1
  exact fun h => h.elim hpend hraised

/-- if every kill() was requested after the body returned, nothing is ever raised anywhere -/
theorem c12_kills_after_body_have_no_effect (as : List Act) (s : S) (hr : run {} as = some s)
    (hall : ∀ k, (s.ks k).pc = 0 ∨ (s.ks k).afterBody = true) :
    s.t.raises = 0 ∧ s.t.pending = false ∧ s.t.raisedInBody = false ∧ s.t.raisedInHandlers = false := by
  have h0 : s.t.raises = 0 := by
    refine Nat.eq_zero_of_not_pos fun hpos => ?_
    obtain ⟨w, hw0, hwa⟩ := (reach_inv hr).2.2 hpos
    cases hall w with
    | inl h => exact hw0 h
    | inr h => simp [h] at hwa
  have hn := c12_no_exception_without_effective_raise as s hr
  grind

/-- a kill that finds the body running makes the exception pending, and it surfaces at the target's
    very next step: no body step is possible while it is pending -/
theorem c12_pending_exception_preempts_body (s : S) (h : s.t.pending = true) :
    step s .tBody = none ∧ step s .tBodyEnd = none ∧ step s .tHandler = none ∧ step s .tFinish = none := by
  simp [step, h]

/-- non-vacuity: kill while the body runs terminates the body -/
example : ∃ s, run {} [.start, .tAcq, .tCheck, .tBody, .kSet 0, .kAlive 0, .kTry 0, .kRaiseCheck 0, .kRaise 0, .tDeliver] = some s ∧
    s.t.raisedInBody = true ∧ s.t.pc = 4 := ⟨_, rfl, by decide, by decide⟩

/-- non-vacuity: the straddling kill (body seen running, body returns, then the raise) lands in the handlers -
    this is why the property only speaks of kills *requested* after the body returned -/
example : ∃ s, run {} [.start, .tAcq, .tCheck, .kSet 0, .kAlive 0, .kTry 0, .tBodyEnd, .kRaiseCheck 0, .kRaise 0, .tDeliver] = some s ∧
    s.t.raisedInHandlers = true := ⟨_, rfl, by decide⟩

theorem joinExit_fst (now dv : Nat) (tie : Bool) :
    (joinExit now (some dv) tie).1 = if dv < now ∨ (dv = now ∧ tie = true) then .own else .timeout := by
  simp only [joinExit]
  split <;> rfl

theorem joinExit_snd (now : Nat) (d : Option Nat) (tie : Bool) : (joinExit now d tie).2 = now := by
  unfold joinExit; cases d with
  | none => rfl
  | some dv => simp only; split <;> rfl

/-- When the loop ends: at the deadline, or before it if the fuel runs out first. -/
def endTime (fuel now deadline interval : Nat) : Nat := min (now + fuel * interval) deadline

theorem endTime_le (fuel now deadline interval : Nat) : endTime fuel now deadline interval ≤ deadline :=
  Nat.min_le_right ..

theorem endTime_stop {fuel now deadline interval : Nat} (hn : now ≤ deadline) (h : fuel = 0 ∨ ¬ now < deadline) :
    endTime fuel now deadline interval = now := by
  unfold endTime
  rcases h with rfl | h
  · rw [Nat.zero_mul, Nat.add_zero, Nat.min_eq_left hn]
  · rw [Nat.le_antisymm hn (Nat.not_lt.1 h)]
    exact Nat.min_eq_right (Nat.le_add_right ..)

theorem endTime_succ (fuel now deadline interval : Nat) :
    endTime fuel.succ now deadline interval = endTime fuel (min (now + interval) deadline) deadline interval ∧
    min (now + interval) deadline ≤ endTime fuel.succ now deadline interval := by
  unfold endTime
  -- `min` distributes over the remaining `fuel * interval`, and capping by the deadline twice is capping once
  rw [← Nat.add_min_add_right, Nat.min_assoc, Nat.min_eq_right (Nat.le_add_right ..), Nat.succ_mul,
    Nat.add_comm (fuel * interval), Nat.add_assoc]
  exact ⟨rfl, Nat.le_min.2 ⟨Nat.le_trans (Nat.min_le_left ..) (Nat.add_le_add_left (Nat.le_add_right ..) _),
    Nat.min_le_right ..⟩⟩

theorem endTime_joinOrDie {timeout interval : Nat} (hi : 0 < interval) :
    endTime (timeout + 1) 0 timeout interval = timeout := by
  have := Nat.le_mul_of_pos_right (timeout + 1) hi
  unfold endTime
  omega

/-- Polling is looking once, when the loop ends: the result is what `joinExit` finds then (the thread's exit `h` only
    decides how early a join comes back, never its answer), and the executor proceeds no later. -/
theorem joinLoop_spec (fuel now deadline interval : Nat) (d : Option Nat) (h : Nat) (tie : Bool) (hn : now ≤ deadline) :
    (joinLoop fuel now deadline interval d h tie).1 = (joinExit (endTime fuel now deadline interval) d tie).1 ∧
    (joinLoop fuel now deadline interval d h tie).2 ≤ endTime fuel now deadline interval := by
  fun_induction joinLoop fuel now deadline interval d h tie
  case case1 | case5 =>      -- the loop ends here: no fuel left, or the deadline is reached
    rw [endTime_stop hn (by simp [*])]
    exact ⟨rfl, Nat.le_of_eq (joinExit_snd ..)⟩
  case case2 now fuel _ wake dv hd hc =>
    -- a join that comes back early does so by `wake`, so the body had returned by the end of the loop
    have := (endTime_succ fuel now deadline interval).2
    rw [hd, joinExit_fst, if_pos (by grind)]
    exact ⟨rfl, by simp only; omega⟩
  case case3 now fuel _ wake _ hd _ ih | case4 now fuel _ wake hd ih =>      -- the join timed out at `wake`: poll again
    rw [(endTime_succ ..).1]
    exact hd ▸ ih (Nat.min_le_right ..)

theorem joinOrDie_spec (timeout interval : Nat) (d : Option Nat) (h : Nat) (tie : Bool) :
    (joinOrDie timeout interval d h tie).1 = (joinExit (endTime (timeout + 1) 0 timeout interval) d tie).1 ∧
    (joinOrDie timeout interval d h tie).2 ≤ endTime (timeout + 1) 0 timeout interval :=
  joinLoop_spec _ 0 _ _ _ _ _ (Nat.zero_le _)

/-- C12: a body that returns before its deadline is never reported as timed out, for every duration,
    deadline, poll interval, handler duration and tie-break. -/
theorem c12_no_false_timeout (timeout interval dv h : Nat) (tie : Bool) (hi : 0 < interval) (hd : dv < timeout) :
    (joinOrDie timeout interval (some dv) h tie).1 = .own := by
  rw [(joinOrDie_spec ..).1, endTime_joinOrDie hi, joinExit_fst, if_pos (.inl hd)]

/-- C12: the executor proceeds no later than the deadline, even if the body never returns (no join waits
    beyond the deadline) -/
theorem c12_bounded_delay (timeout interval h : Nat) (d : Option Nat) (tie : Bool) (hi : 0 < interval) :
    (joinOrDie timeout interval d h tie).2 ≤ timeout :=
  Nat.le_trans (joinOrDie_spec ..).2 (Nat.le_of_eq (endTime_joinOrDie hi))

/-- a body that never returns is reported as a timeout -/
theorem c12_hung_body_times_out (timeout interval h : Nat) (tie : Bool) :
    (joinOrDie timeout interval none h tie).1 = .timeout := (joinOrDie_spec ..).1

/-- C12: TIMEOUT is only ever reported for a body still running at its deadline -/
theorem c12_timeout_only_if_still_running_at_deadline (timeout interval dv h : Nat) (tie : Bool) (hi : 0 < interval)
    (hres : (joinOrDie timeout interval (some dv) h tie).1 = .timeout) : timeout ≤ dv := by
  rw [(joinOrDie_spec ..).1, endTime_joinOrDie hi, joinExit_fst] at hres
  split at hres
  · cases hres
  · omega

/-- C12: a body still running when its timeout expires is reported as TIMEOUT, whatever the poll interval
    (also a time-out shorter than the interval, and a body that would have returned before the next poll) -/
theorem c12_still_running_at_deadline_times_out (timeout interval dv h : Nat) (tie : Bool) (hd : timeout < dv) :
    (joinOrDie timeout interval (some dv) h tie).1 = .timeout := by
  have := endTime_le (timeout + 1) 0 timeout interval
  rw [(joinOrDie_spec ..).1, joinExit_fst, if_neg (by omega)]

/-- the join that waited a whole interval regardless of the deadline (before the `fix:` commit) let a body
    that overran its time-out keep its result: time-out 1, interval 3, body returns at 2 -/
example : (joinOrDie 1 3 (some 2) 0 false).1 = .timeout := by decide

/-- the default timeout, DEFAULT_PHASE_TIMEOUT_S regenerated from the source, is the documented 180 s -/
theorem c12_default_timeout : effectiveTimeoutS none = 180 ∧
    ∀ t, effectiveTimeoutS (some t) = t := ⟨by decide, fun _ => rfl⟩

example : joinOrDie 10 3 (some 9) 0 false = (.own, 9) := by decide
example : joinOrDie 10 3 (some 11) 0 false = (.timeout, 10) := by decide   -- overran its time-out: the last join ends at the deadline
example : joinOrDie 10 3 (some 13) 0 false = (.timeout, 10) := by decide
-- the body returned at 9 < 10 but its thread lives until 14: the outcome recorded at 9 is what counts
example : joinOrDie 10 3 (some 9) 5 false = (.own, 10) := by decide
example : joinOrDie 0 3 none 0 false = (.timeout, 0) := by decide

/-- before the fix: with the target past its body (the lock is free) two killers probing at the same time —
    the second try-acquire falls between the first killer's acquire and release — make the second one
    conclude that the body is running: it goes on to raise the exception in a thread that is in its handlers -/
theorem probe_by_acquire_misleads_a_second_killer :
    (([ProbeAct.tryAcquire 0, .tryAcquire 1, .release 0].foldl probeStep {}).sawRunning 1 = some true) ∧
    (([ProbeAct.tryAcquire 0, .tryAcquire 1, .release 0].foldl probeStep {}).sawRunning 0 = some false) := by
  constructor <;> rfl

/-- the probe that only reads the lock says "running" exactly when somebody holds it, and nobody but the
    target ever takes it (`kTry` of the transition system above is this read) -/
theorem c12_locked_probe_is_the_targets_hold (t : T) :
    lockedProbe (if lockHeld t then some 0 else none) = lockHeld t := by
  cases h : lockHeld t <;> simp [lockedProbe]

end OpenHTF.Kill
