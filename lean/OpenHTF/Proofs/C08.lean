import OpenHTF.Model.Plugs
import OpenHTF.Proofs.Lemmas.Exec
/-
C08 — plug lifecycle. For every test program, every assignment of plugs, every constructor/tearDown
fault pattern and every iteration order of the plug-type set.
-/
namespace OpenHTF.Plugs
open OpenHTF.Exec

def ctors (c : Nat) (evs : List Ev) : Nat := evs.count (.plugCtor c)

def tears (c : Nat) (evs : List Ev) : Nat := evs.count (.plugTearDown c)

/-- before any tearDown: live instances are distinct and each class was constructed once iff it is live -/
def Pre (s : PSt) : Prop :=
  s.live.Nodup ∧ ∀ c, ctors c s.events = (if c ∈ s.live then 1 else 0) ∧ tears c s.events = 0

/-- after the tearDown: nothing is live, every constructed instance was torn down exactly once -/
def Post (s : PSt) : Prop :=
  s.live = [] ∧ ∀ c, ctors c s.events = tears c s.events ∧ ctors c s.events ≤ 1

def isTear : Ev → Bool | .plugTearDown _ => true | _ => false

def isCallback : Ev → Bool | .callback _ => true | _ => false

/-- once a tearDown has been called, only further tearDowns and then output callbacks follow:
    no phase body, no diagnoser, no plug constructor -/
def okAfterTear : List Ev → Bool
  | [] => true
  | e :: es => (if isTear e then es.all (fun x => isTear x || isCallback x) else true) && okAfterTear es

/-- a log with no tearDown yet (so for a `Pre` state), or - what a constructor failure's own teardown leaves - nothing
    alive and the tearDowns at the end -/
def GoodLog (p : PSt) : Prop :=
  (∀ e ∈ p.events, isTear e = false) ∨
  (p.live = [] ∧ ∃ a t, p.events = a ++ t ∧ (∀ e ∈ a, isTear e = false) ∧ (∀ e ∈ t, isTear e = true))

def Unplugged (es : List Ev) : Prop := ∀ e ∈ es, ∀ c, e ≠ .plugCtor c ∧ e ≠ .plugTearDown c

/-- what a run logs between the plug constructions and the teardown: constructor failures, the executor's own events, test diagnosers -/
def inert : Ev → Bool
  | .plugCtor _ | .plugTearDown _ | .callback _ => false
  | _ => true

theorem tearDownPlugs_idem (s : PSt) : tearDownPlugs (tearDownPlugs s) = tearDownPlugs s := by
  simp [tearDownPlugs]

/-- the teardown at the end of the run absorbs the one a failed constructor did: nothing is alive after that one -/
theorem finishRun_tearDown (cbs : List Bool) (s : PSt) (st : St) : finishRun cbs (tearDownPlugs s) st = finishRun cbs s st := by
  simp only [finishRun, tearDownPlugs_idem]

/-- `initialize_plugs`, step by step: what comes back is a state `q` with `P`, torn down if a constructor raised -/
theorem initializePlugs_induction (b : PlugBeh) (P : PSt → Prop)
    (hctor : ∀ s c, P s → c ∉ s.live → P { live := s.live ++ [c], events := s.events ++ [.plugCtor c] })
    (hfail : ∀ s c, P s → P { s with events := s.events ++ [.plugCtorFailed c] }) :
    ∀ (cs : List Nat) (s : PSt), P s →
      ∃ q, P q ∧ (initializePlugs cs b s).1 = if (initializePlugs cs b s).2 then tearDownPlugs q else q := by
  intro cs s h
  fun_induction initializePlugs cs b s with
  -- the four branches of `initializePlugs`: no class left; `c` has an instance; its constructor raises; it is constructed
  | case1 => exact ⟨_, h, rfl⟩
  | case2 c cs b s _ ih => exact ih h
  | case3 c cs b s _ _ => exact ⟨_, hfail s c h, rfl⟩
  | case4 c cs b s hl _ ih => exact ih (hctor s c h (by simpa using hl))

theorem sync_frame (p : PSt) (a b : St) (h : Ext a b) : ∃ es, sync p a b = { p with events := p.events ++ es } ∧ ∀ e ∈ es, inert e = true := by
  obtain ⟨es, he, hq⟩ := h
  exact ⟨es, by simp [sync, he], fun e hm => by cases e <;> first | rfl | exact nomatch hq _ hm⟩

/-- Every run ends in `finishRun` of a plug state `p` that has seen no teardown (`finishRun_tearDown`) and has only met
    plug constructions and, in between, `inert` events: constructors that raise, the call log of the phases (`sync`), the
    test diagnosers; so whatever these two keep (`P`) holds of the state the teardown starts from. -/
theorem execute_finishes (cfg : Cfg) (r : Run) (P : PSt → Prop) (h0 : P {})
    (hctor : ∀ s c, P s → c ∉ s.live → P { live := s.live ++ [c], events := s.events ++ [.plugCtor c] })
    (happ : ∀ p es, (∀ e ∈ es, inert e = true) → P p → P { p with events := p.events ++ es }) :
    ∃ p st, P p ∧ execute cfg r = finishRun r.callbacks p st := by
  have hinit := initializePlugs_induction r.beh P hctor fun s c => happ s _ (List.forall_mem_singleton.2 rfl)
  have hsync p a b (hx : Ext a b) (hp : P p) : P (sync p a b) := by
    obtain ⟨es, e, hq⟩ := sync_frame p a b hx
    exact e ▸ happ p es hq hp
  -- test_start leaves a state with `P`, or - a constructor of its plugs raised: the run stops - the teardown of one
  have start : ∃ q, P q ∧ ((runStart cfg r).1 = q ∨ (runStart cfg r).2.2 = true ∧ (runStart cfg r).1 = tearDownPlugs q) := by
    unfold runStart
    split
    · exact ⟨_, h0, .inl rfl⟩
    · rename_i ph _
      obtain ⟨q, hq, hi⟩ := hinit r.startPlugs {} h0
      by_cases hf : (initializePlugs r.startPlugs r.beh {}).2 = true
      · rw [if_pos hf] at hi ⊢; exact ⟨q, hq, .inr ⟨rfl, hi⟩⟩
      · rw [if_neg hf] at hi ⊢
        obtain ⟨_, a, _⟩ := executePhase_spec cfg ph none {}
        exact ⟨_, hsync _ {} _ a.ext (hi ▸ hq), .inl (by dsimp only; split <;> rfl)⟩
  unfold execute
  obtain ⟨q, hq, hs⟩ := start
  by_cases hgo : (runStart cfg r).2.2 = true
  · rw [if_pos hgo]
    rcases hs with hs | ⟨_, hs⟩
    · exact ⟨_, _, hs ▸ hq, rfl⟩
    · exact ⟨q, _, hq, by rw [hs, finishRun_tearDown]⟩
  · rw [if_neg hgo]
    obtain rfl : (runStart cfg r).1 = q := hs.resolve_right fun h => hgo h.1
    obtain ⟨q, hq, hi⟩ := hinit r.allPlugs _ hq
    by_cases hf : (initializePlugs r.allPlugs r.beh (runStart cfg r).1).2 = true
    · rw [if_pos hf] at hi ⊢; exact ⟨q, _, hq, by rw [hi, finishRun_tearDown]⟩
    · rw [if_neg hf] at hi ⊢
      exact ⟨_, _, happ _ _ (List.forall_mem_map.2 fun _ _ => rfl)
        (hsync _ _ _ (execAb_rel (progress_compositional cfg) r.test.nodes none _).1.ext (hi ▸ hq)), rfl⟩

theorem count_map_tear (c : Nat) (l : List Nat) : (l.map Ev.plugTearDown).count (.plugTearDown c) = l.count c := by
  induction l with
  | nil => rfl
  | cons x xs ih =>
    simp only [List.map_cons, List.count_cons, ih]
    by_cases h : x = c <;> simp [h]

theorem count_map_tear_ctor (c : Nat) (l : List Nat) : (l.map Ev.plugTearDown).count (.plugCtor c) = 0 := by
  simp [List.count_eq_zero]

theorem Unplugged.counts {es : List Ev} (h : Unplugged es) (evs : List Ev) (c : Nat) :
    ctors c (evs ++ es) = ctors c evs ∧ tears c (evs ++ es) = tears c evs := by
  simp only [ctors, tears, List.count_append]
  rw [List.count_eq_zero_of_not_mem fun hm => (h _ hm c).1 rfl, List.count_eq_zero_of_not_mem fun hm => (h _ hm c).2 rfl]
  exact ⟨rfl, rfl⟩

theorem Unplugged.of_inert {es : List Ev} (h : ∀ e ∈ es, inert e = true) : Unplugged es :=
  fun e he c => by constructor <;> (intro x; subst x; exact nomatch h _ he)

theorem Unplugged.map {f : Nat → Ev} (hf : ∀ j c, f j ≠ .plugCtor c ∧ f j ≠ .plugTearDown c) (l : List Nat) : Unplugged (l.map f) :=
  List.forall_mem_map.2 fun j _ => hf j

theorem Pre.append {p : PSt} (h : Pre p) {es : List Ev} (hes : Unplugged es) : Pre { p with events := p.events ++ es } :=
  ⟨h.1, fun c => by rw [(hes.counts p.events c).1, (hes.counts p.events c).2]; exact h.2 c⟩

theorem Post.append {p : PSt} (h : Post p) {es : List Ev} (hes : Unplugged es) : Post { p with events := p.events ++ es } :=
  ⟨h.1, fun c => by rw [(hes.counts p.events c).1, (hes.counts p.events c).2]; exact h.2 c⟩

theorem pre_init : Pre ({} : PSt) := ⟨List.nodup_nil, fun c => by simp [ctors, tears]⟩

theorem Pre.ctor {s : PSt} (h : Pre s) {c : Nat} (hc : c ∉ s.live) :
    Pre { live := s.live ++ [c], events := s.events ++ [.plugCtor c] } := by
  refine ⟨List.nodup_append.mpr ⟨h.1, by simp, fun a ha b hb => by rw [List.mem_singleton.mp hb]; exact fun e => hc (e ▸ ha)⟩, fun x => ?_⟩
  have := h.2 x
  simp only [ctors, tears, List.count_append, List.count_singleton] at this ⊢
  grind

theorem Pre.sync {p : PSt} (hp : Pre p) (a b : St) (h : Ext a b) : Pre (sync p a b) := by
  obtain ⟨es, e, hq⟩ := sync_frame p a b h
  exact e ▸ hp.append (.of_inert hq)

theorem Post.sync {p : PSt} (hp : Post p) (a b : St) (h : Ext a b) : Post (sync p a b) := by
  obtain ⟨es, e, hq⟩ := sync_frame p a b h
  exact e ▸ hp.append (.of_inert hq)

theorem tearDown_post (s : PSt) (h : Pre s) : Post (tearDownPlugs s) := by
  obtain ⟨hn, hc⟩ := h
  refine ⟨rfl, fun c => ?_⟩
  simp only [tearDownPlugs, ctors, tears, List.count_append, count_map_tear, count_map_tear_ctor]
  have h1 := (hc c).1; have h2 := (hc c).2
  simp only [ctors, tears] at h1 h2
  rw [h1, h2]
  have hcount := hn.count (a := c)
  by_cases hm : c ∈ s.live <;> simp [hm, hcount]

theorem finishRun_counts (cbs : List Bool) (p : PSt) (st : St) (h : Pre p) :
    (∀ c, tears c (finishRun cbs p st).events = ctors c (finishRun cbs p st).events ∧ ctors c (finishRun cbs p st).events ≤ 1) ∧
    (finishRun cbs p st).liveAfter = [] := by
  obtain ⟨hl, hc⟩ := (tearDown_post p h).append (Unplugged.map (f := Ev.callback) (by simp) (List.range cbs.length))
  exact ⟨fun c => ⟨(hc c).1.symm, (hc c).2⟩, hl⟩

theorem okAfterTear_iff (l : List Ev) :
    okAfterTear l = true ↔ l.Pairwise fun x y => isTear x = true → (isTear y || isCallback y) = true := by
  induction l with
  | nil => exact iff_of_true rfl .nil
  | cons e es ih =>
    rw [okAfterTear, List.pairwise_cons, Bool.and_eq_true, ih]
    refine and_congr_left' ?_
    split
    · next h => exact List.all_eq_true.trans (forall₂_congr fun _ _ => (imp_iff_right h).symm)
    · next h => exact iff_of_true rfl fun _ _ h' => absurd h' h

theorem okAfterTear_append {a b : List Ev} (ha : ∀ e ∈ a, isTear e = false)
    (hb : ∀ e ∈ b, (isTear e || isCallback e) = true) : okAfterTear (a ++ b) = true := by
  have no {x} (hx : x ∈ a) {P : Prop} (h : isTear x = true) : P := absurd h (by simp [ha x hx])
  exact (okAfterTear_iff _).2 (List.pairwise_append.2
    ⟨List.pairwise_of_forall_mem_list fun _ hx _ _ => no hx, List.pairwise_of_forall_mem_list fun _ _ y hy _ => hb y hy,
      fun _ hx _ _ => no hx⟩)

theorem noTear_of_count (evs : List Ev) (h : ∀ c, tears c evs = 0) : ∀ e ∈ evs, isTear e = false := by
  intro e he
  cases e with
  | plugTearDown c =>
    exfalso
    exact (List.count_eq_zero.mp (h c)) he
  | _ => rfl

theorem finishRun_ok (cbs : List Bool) (p : PSt) (st : St) (h : GoodLog p) : okAfterTear (finishRun cbs p st).events = true := by
  simp only [finishRun, tearDownPlugs]
  have tail {t : List Ev} (ht : ∀ e ∈ t, isTear e = true) :
      ∀ e ∈ t ++ (List.range cbs.length).map Ev.callback, (isTear e || isCallback e) = true :=
    List.forall_mem_append.2 ⟨fun e he => by simp [ht e he], List.forall_mem_map.2 fun _ _ => rfl⟩
  rcases h with h | ⟨hl, a, t, he, ha, ht⟩
  · rw [List.append_assoc]
    exact okAfterTear_append h (tail (List.forall_mem_map.2 fun _ _ => rfl))
  · rw [hl, he, List.map_nil, List.append_nil, List.append_assoc]
    exact okAfterTear_append ha (tail ht)

theorem Pre.good {p : PSt} (h : Pre p) : GoodLog p := Or.inl (noTear_of_count _ (fun c => (h.2 c).2))

theorem GoodLog.sync_post {p : PSt} (h : GoodLog p) (a b : St) (hx : Ext a b) (hpre : Pre p) : GoodLog (sync p a b) :=
  (hpre.sync a b hx).good

theorem execute_pre (cfg : Cfg) (r : Run) : ∃ p st, Pre p ∧ execute cfg r = finishRun r.callbacks p st :=
  execute_finishes cfg r Pre (h0 := pre_init) (hctor := fun _ _ h hc => h.ctor hc) (happ := fun _ _ hes h => h.append (.of_inert hes))

/-- C08: in every run, whatever the plug constructors, phases, diagnosers and tearDowns do, each plug
    class is constructed at most once, every constructed instance has tearDown called exactly once, and
    nothing is left alive when execute() returns. -/
theorem c08_ctor_at_most_once_teardown_exactly_once (cfg : Cfg) (r : Run) :
    (∀ c, tears c (execute cfg r).events = ctors c (execute cfg r).events ∧ ctors c (execute cfg r).events ≤ 1) ∧
    (execute cfg r).liveAfter = [] := by
  obtain ⟨p, st, h, e⟩ := execute_pre cfg r
  rw [e]; exact finishRun_counts _ _ _ h

/-- C08: plug tearDown comes after the last phase and the last diagnoser and before the output
    callbacks; once tearDown started nothing else of the test runs — on every path (constructor failure
    of the k-th plug, terminal test_start, any phase outcome). -/
theorem c08_teardown_after_phases_before_callbacks (cfg : Cfg) (r : Run) : okAfterTear (execute cfg r).events = true := by
  obtain ⟨p, st, h, e⟩ := execute_pre cfg r
  rw [e]; exact finishRun_ok _ _ _ h.good

theorem init_ignores_teardown_beh (b : PlugBeh) (td : Nat → TearDownBeh) :
    ∀ (cs : List Nat) (s : PSt), initializePlugs cs { b with tearDown := td } s = initializePlugs cs b s := by
  intro cs s
  fun_induction initializePlugs cs b s <;> simp_all [initializePlugs]

/-- C08: a tearDown that raises, or hangs and is abandoned after plug_teardown_timeout_s, changes
    neither the outcome nor anything else of the run, nor the other plugs' tearDown: the whole result
    is independent of how the tearDowns behave. -/
theorem c08_teardown_fault_isolated (cfg : Cfg) (r : Run) (td : Nat → TearDownBeh) :
    execute cfg { r with beh := { r.beh with tearDown := td } } = execute cfg r := by
  simp only [execute, runStart, init_ignores_teardown_beh]

/-- C08: a plug constructor failure (after a non-terminal test_start) gives outcome ERROR with no
    further phase executed: the executor state is the one test_start left, plus the failure. -/
theorem c08_ctor_failure_error_no_phase (cfg : Cfg) (r : Run) (hgo : (runStart cfg r).2.2 = false)
    (hfail : (initializePlugs r.allPlugs r.beh (runStart cfg r).1).2 = true) :
    (execute cfg r).st = setLast (runStart cfg r).2.1 (.exc false) ∧
    ((runStart cfg r).2.1.last = none → (execute cfg r).outcome = .error) := by
  constructor
  · simp [execute, hgo, hfail, finishRun]
  · intro hl
    simp [execute, hgo, hfail, finishRun, finalize, setLast, hl]

/-- C08: `initialize_plugs(types)` constructs only classes from `types`: while test_start runs only
    the plugs test_start needs exist -/
theorem c08_init_constructs_only_requested (b : PlugBeh) : ∀ (cs : List Nat) (s : PSt) (c : Nat),
    c ∈ (initializePlugs cs b s).1.live → c ∈ s.live ∨ c ∈ cs := by
  intro cs s c
  fun_induction initializePlugs cs b s with
  | case1 => exact .inl
  | case2 x cs b s _ ih => exact fun h => (ih h).imp_right (List.mem_cons_of_mem x)
  | case3 => exact nofun
  | case4 x cs b s _ _ ih =>
    -- a class becomes live by being constructed, and only classes of the list are
    intro h
    rcases ih h with h | h
    · exact (List.mem_append.mp h).imp_right fun h => by simp [List.mem_singleton.mp h]
    · exact .inr (List.mem_cons_of_mem x h)

/-- non-vacuity: the second of three plugs fails to construct: the first is torn down once, no phase runs -/
example :
    let r : Run := { test := { nodes := [.phase { id := 1, beh := fun _ => { raw := .ret .cont } }] },
                     allPlugs := [5, 6, 7], beh := { ctorRaises := fun c => c == 6, tearDown := fun _ => .ok }, callbacks := [false] }
    (execute {} r).events = [.plugCtor 5, .plugCtorFailed 6, .plugTearDown 5, .callback 0] ∧ (execute {} r).outcome = .error := by
  decide +kernel

end OpenHTF.Plugs
