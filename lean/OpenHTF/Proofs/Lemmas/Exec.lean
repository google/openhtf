import OpenHTF.Proofs.C05
/- The executor's traversal of the node tree: its equations in one sequencing rule, one compositional
   reasoning principle (`exec_rel`), and what the traversal preserves. -/
namespace OpenHTF.Exec

theorem Ret.cont_max (y : Ret) : Ret.cont.max y = y := by cases y <;> rfl
theorem Ret.max_cont (x : Ret) : x.max .cont = x := by cases x <;> rfl

theorem Ret.max_assoc (a b c : Ret) : (a.max b).max c = a.max (b.max c) := by cases a <;> cases b <;> cases c <;> rfl

theorem Ret.max_eq_term {a b : Ret} (h : a.max b = .term) : a = .term ∨ b = .term := by
  cases a <;> cases b <;> simp [Ret.max] at h ⊢
theorem Ret.max_eq_cont {a b : Ret} (h : a.max b = .cont) : a = .cont ∧ b = .cont := by
  cases a <;> cases b <;> simp [Ret.max] at h ⊢

/-- the sequence runner of `_execute_node` with the mode as a parameter: teardown (`true`) or abortable; C02 and C03
    spell it `if td then execTd … else execAb …` (C03 also `setupOf` / `mainOf`), which unfolds to this -/
def execL (cfg : Cfg) (td : Bool) (ns : List Node) (sub : Option Nat) (st : St) : St × Ret :=
  if td then execTd cfg ns sub st else execAb cfg ns sub st

theorem execL_nil (cfg : Cfg) (td : Bool) (sub : Option Nat) (st : St) : execL cfg td [] sub st = (st, .cont) := by
  simp [execL, execAb, execTd]

/-- both disciplines in one rule: an abortable sequence stops at a node that does not return CONTINUE -/
theorem execL_cons (cfg : Cfg) (td : Bool) (n : Node) (ns : List Node) (sub : Option Nat) (st : St) :
    execL cfg td (n :: ns) sub st =
      if !td && (exec cfg n sub td st).2 != .cont then exec cfg n sub td st
      else ((execL cfg td ns sub (exec cfg n sub td st).1).1,
            (exec cfg n sub td st).2.max (execL cfg td ns sub (exec cfg n sub td st).1).2) := by
  cases td
  · simp only [execL, execAb, Bool.false_eq_true, if_false, Bool.not_false, Bool.true_and]
    split
    · rfl
    · rename_i h
      have h : (exec cfg n sub false st).2 = .cont := by simpa using h
      rw [h, Ret.cont_max]
  · simp [execL, execTd]

theorem execAb_append (cfg : Cfg) (pre post : List Node) (sub : Option Nat) (st : St) :
    execAb cfg (pre ++ post) sub st =
      if (execAb cfg pre sub st).2 != .cont then execAb cfg pre sub st else execAb cfg post sub (execAb cfg pre sub st).1 := by
  induction pre generalizing st with
  | nil => simp [execAb]
  | cons n pre ih => simp only [List.cons_append, execAb, ih]; split <;> simp [*]

theorem execTd_append (cfg : Cfg) (pre post : List Node) (sub : Option Nat) (st : St) :
    execTd cfg (pre ++ post) sub st =
      ((execTd cfg post sub (execTd cfg pre sub st).1).1, (execTd cfg pre sub st).2.max (execTd cfg post sub (execTd cfg pre sub st).1).2) := by
  induction pre generalizing st with
  | nil => simp [execTd, Ret.cont_max]
  | cons n pre ih => simp [execTd, ih, Ret.max_assoc]

theorem exec_seq (cfg : Cfg) (ns : List Node) (sub : Option Nat) (td : Bool) (st : St) :
    exec cfg (.seq ns) sub td st = execL cfg td ns sub st := by rw [exec]; rfl

theorem exec_subtest (cfg : Cfg) (name : Nat) (ns : List Node) (sub : Option Nat) (td : Bool) (st : St) :
    exec cfg (.subtest name ns) sub td st =
      let r := execL cfg td ns (some name) { st with subFail := sub.isSome && st.subFail }
      ({ r.1 with subtests := r.1.subtests ++ [(name, if r.2 == .term then .stop else if r.1.subFail then .fail else .pass)],
                  subFail := st.subFail }, r.2) := by rw [exec]; rfl

theorem exec_branch (cfg : Cfg) (id : Nat) (c : DiagCond) (ns : List Node) (sub : Option Nat) (td : Bool) (st : St) :
    exec cfg (.branch id c ns) sub td st =
      if !td && sub.isSome && st.subFail then (st, .cont)
      else if condCheck c st.store then
        ({ (execL cfg td ns sub st).1 with branches := (execL cfg td ns sub st).1.branches ++ [(id, true)] }, (execL cfg td ns sub st).2)
      else ({ st with branches := st.branches ++ [(id, false)] }, .cont) := by rw [exec]; rfl

/-- a group: setup; if that returned CONTINUE, main, then the teardown (as a teardown unless the group is being skipped) -/
theorem exec_group (cfg : Cfg) (s m t : List Node) (sub : Option Nat) (td : Bool) (st : St) :
    exec cfg (.group s m t) sub td st =
      let r1 := execL cfg td s sub st
      if r1.2 != .cont then r1 else
      let r2 := execL cfg td m sub r1.1
      let r3 := execL cfg (!((!td && sub.isSome && st.subFail) || (!td && sub.isSome && r1.1.subFail))) t sub r2.1
      (r3.1, r2.2.max r3.2) := by rw [exec]; rfl

theorem runPhase_eq (cfg : Cfg) (p : Phase) (sub : Option Nat) (st : St) :
    runPhase cfg p sub st =
      finishNode (executePhase cfg p sub st).1 (sofOutcome cfg (executePhase cfg p sub st).1 (executePhase cfg p sub st).2) := rfl

theorem evalCheckpoint_eq (c : Ckpt) (sub : Option Nat) (st : St) :
    evalCheckpoint c sub st = finishNode { st with checkpoints := st.checkpoints ++ [(c.id, sub, checkpointResult c sub st)] }
      (checkpointResult c sub st) := rfl

theorem setLast_isSome (st : St) (r : Res) : (setLast st r).last.isSome = true := by
  unfold setLast; cases st.last <;> rfl

theorem finishNode_fst (st : St) (o : Res) : (finishNode st o).1 =
    { st with last := if o.isTerminal then st.last <|> some o else st.last,
              subFail := if o.isTerminal then st.subFail else if o == .pr .failSub then true else st.subFail } := by
  unfold finishNode setLast; (repeat' split) <;> rfl
@[simp] theorem finishNode_phases (st : St) (o : Res) : (finishNode st o).1.phases = st.phases := by rw [finishNode_fst]
theorem finishNode_last (st : St) (o : Res) :
    (finishNode st o).1.last = if o.isTerminal then st.last <|> some o else st.last := by rw [finishNode_fst]

theorem finishNode_term (st : St) (o : Res) (h : (finishNode st o).2 = .term) : (finishNode st o).1.last.isSome = true := by
  rw [finishNode_last]
  unfold finishNode at h
  split
  · exact setLast_isSome st o
  · rename_i ht; rw [if_neg ht] at h; split at h <;> cases h

theorem sofOutcome_terminal (cfg : Cfg) (st : St) (r : Res) (h : r.isTerminal = true) : (sofOutcome cfg st r).isTerminal = true := by
  unfold sofOutcome; split
  · rfl
  · exact h

/-- `b` differs from `a` at most in the bookkeeping of subtests, branches and checkpoints (as one equation, so that
    `rfl` proves it of a `{ a with … }`) -/
def Frame (a b : St) : Prop :=
  b = { a with subtests := b.subtests, branches := b.branches, checkpoints := b.checkpoints, subFail := b.subFail }

theorem Frame.phases {a b : St} (h : Frame a b) : b.phases = a.phases := (congrArg St.phases h :)
theorem Frame.last {a b : St} (h : Frame a b) : b.last = a.last := (congrArg St.last h :)
theorem Frame.progress {a b : St} (h : Frame a b) : Progress a b :=
  .same h.phases (congrArg St.runIfCalls h :) (congrArg St.events h :) h.last

theorem setLast_progress (st : St) {o : Res} (ht : o.isTerminal = true) : Progress st (setLast st o) := by
  refine ⟨⟨.refl st, .refl st, .refl st, fun _ => setLast_isSome st o⟩, fun x hx => ?_, fun _ hr _ => .inl hr⟩
  have hx : (st.last <|> some o) = some x := hx
  cases h : st.last with
  | none => rw [h] at hx; cases hx; exact .inr ht
  | some y => rw [h] at hx; exact .inl hx

theorem finishNode_progress (st : St) (o : Res) : Progress st (finishNode st o).1 := by
  unfold finishNode
  split
  · exact setLast_progress st ‹_›
  · split <;> exact Frame.progress rfl

/-- A relation between the state before a node and its result that holds of the three things a traversal is made of
    (a phase run, a phase skipped, a checkpoint evaluated), ignores the bookkeeping around them (which returns
    CONTINUE), and composes along a sequence, where return values combine by `max`. -/
structure Compositional (cfg : Cfg) (R : St → St × Ret → Prop) : Prop where
  frame : ∀ {a b}, Frame a b → R a (b, .cont)
  comp : ∀ {a b c x y}, R a (b, x) → R b (c, y) → R a (c, x.max y)
  runPhase : ∀ p sub st, R st (runPhase cfg p sub st)
  skipPhase : ∀ p sub st, R st (skipPhase p sub st, .cont)
  evalCheckpoint : ∀ c sub st, R st (evalCheckpoint c sub st)

section
variable {cfg : Cfg} {R : St → St × Ret → Prop}

theorem Compositional.pre (h : Compositional cfg R) {a b : St} {r : St × Ret}
    (hf : Frame a b) (hr : R b r) : R a r := by
  simpa [Ret.cont_max] using h.comp (h.frame hf) hr
theorem Compositional.seq (h : Compositional cfg R) {a : St} {r1 r2 : St × Ret}
    (h1 : R a r1) (hc : r1.2 = .cont) (h2 : R r1.1 r2) : R a r2 := by
  have h1 : R a (r1.1, r1.2) := h1
  rw [hc] at h1
  simpa [Ret.cont_max] using h.comp h1 h2
theorem Compositional.post (h : Compositional cfg R) {a b c : St} {x : Ret}
    (hr : R a (b, x)) (hf : Frame b c) : R a (c, x) := by
  simpa [Ret.max_cont] using h.comp hr (h.frame hf)

/-- every such relation holds of every node, in either mode -/
theorem exec_rel (h : Compositional cfg R) :
    ∀ (n : Node) (sub : Option Nat) (td : Bool) (st : St), R st (exec cfg n sub td st) := by
  intro n sub td st
  -- by induction on the tree; of a list of nodes the same is shown for `execL`
  induction n using Node.rec (motive_2 := fun ns => ∀ td sub st, R st (execL cfg td ns sub st)) generalizing sub td st with
  | phase p =>
    simp only [exec, execPhaseNode]; split
    · exact h.skipPhase p sub st
    · exact h.runPhase p sub st
  | checkpoint c =>
    simp only [exec, execCheckpoint]; split
    · exact h.frame rfl
    · exact h.evalCheckpoint c sub st
  | seq ns ih => rw [exec_seq]; exact ih td sub st
  | subtest name ns ih =>
    rw [exec_subtest]
    exact h.post (h.pre (b := { st with subFail := sub.isSome && st.subFail }) rfl (ih td (some name) _)) rfl
  | branch id c ns ih =>
    rw [exec_branch]
    split
    · exact h.frame rfl
    · split
      · exact h.post (ih td sub st) rfl
      · exact h.frame rfl
  | group s m t ihs ihm iht =>
    rw [exec_group]
    have h1 := ihs td sub st
    simp only
    split
    · exact h1
    · rename_i hc
      exact h.seq h1 (by simpa using hc) (h.comp (ihm td sub _) (iht _ sub _))
  | nil => rw [execL_nil]; exact h.frame rfl
  | cons n ns ihn ihns =>
    rename_i td sub st
    rw [execL_cons]
    split
    · exact ihn sub td st
    · exact h.comp (ihn sub td st) (ihns td sub _)

theorem execL_rel (h : Compositional cfg R) (td : Bool) (ns : List Node) (sub : Option Nat) (st : St) :
    R st (execL cfg td ns sub st) := exec_seq cfg ns sub td st ▸ exec_rel h (.seq ns) sub td st

theorem execAb_rel (h : Compositional cfg R) (ns : List Node) (sub : Option Nat) (st : St) :
    R st (execAb cfg ns sub st) := execL_rel h false ns sub st
theorem execTd_rel (h : Compositional cfg R) (ns : List Node) (sub : Option Nat) (st : St) :
    R st (execTd cfg ns sub st) := execL_rel h true ns sub st

end

/-- the traversal is progress, and a node returns TERMINAL only with an outcome remembered -/
theorem progress_compositional (cfg : Cfg) :
    Compositional cfg (fun a r => Progress a r.1 ∧ (r.2 = .term → r.1.last.isSome = true)) where
  frame h := ⟨h.progress, by simp⟩
  comp h1 h2 := ⟨h1.1.trans h2.1, fun ht => (Ret.max_eq_term ht).elim (fun hx => h2.1.last (h1.2 hx)) h2.2⟩
  runPhase p sub st := by
    obtain ⟨recs, a, _⟩ := executePhase_spec cfg p sub st
    -- a terminal result of the loop stays terminal under stop_on_first_failure, and `finishNode` remembers it
    refine ⟨a.progress (finishNode_progress _ _) fun ht => ?_, finishNode_term _ _⟩
    rw [runPhase_eq, finishNode_last, if_pos (sofOutcome_terminal _ _ _ ht)]
    exact setLast_isSome _ _
  skipPhase _ _ _ := ⟨⟨⟨⟨_, rfl⟩, .refl _, .refl _, id⟩, fun _ => .inl,
    fun _ hr he => (List.mem_append.mp hr).imp_right fun h => by cases List.mem_singleton.mp h; cases he⟩, by simp⟩
  evalCheckpoint _ _ _ := by
    rw [evalCheckpoint_eq]
    refine ⟨.trans ?_ (finishNode_progress _ _), finishNode_term _ _⟩
    exact Frame.progress rfl

theorem exec_ext (cfg : Cfg) : ∀ (n : Node) (sub : Option Nat) (td : Bool) (st : St), Ext st (exec cfg n sub td st).1 :=
  fun n sub td st => (exec_rel (progress_compositional cfg) n sub td st).1.ext

theorem exec_growsRI (cfg : Cfg) (n : Node) (sub : Option Nat) (td : Bool) (st : St) : GrowsRI st (exec cfg n sub td st).1 :=
  (exec_rel (progress_compositional cfg) n sub td st).1.runIf

/-- once a terminal outcome is remembered it stays remembered -/
theorem exec_last_kept (cfg : Cfg) (n : Node) (sub : Option Nat) (td : Bool) (st : St) (h : st.last.isSome = true) :
    (exec cfg n sub td st).1.last.isSome = true :=
  (exec_rel (progress_compositional cfg) n sub td st).1.last h

/-- a node returns TERMINAL only with a terminal outcome remembered -/
theorem exec_term_last (cfg : Cfg) : ∀ (n : Node) (sub : Option Nat) (td : Bool) (st : St),
    (exec cfg n sub td st).2 = .term → (exec cfg n sub td st).1.last.isSome = true :=
  fun n sub td st => (exec_rel (progress_compositional cfg) n sub td st).2

theorem exec_LastTerm (cfg : Cfg) (n : Node) (sub : Option Nat) (td : Bool) (st : St) (h : LastTerm st) :
    LastTerm (exec cfg n sub td st).1 :=
  (exec_rel (progress_compositional cfg) n sub td st).1.lastTerm h

/-- every node keeps `ErrInv`, and keeps a remembered terminal outcome remembered (`exec_last_kept`) -/
theorem exec_ErrInv (cfg : Cfg) : ∀ (n : Node) (sub : Option Nat) (td : Bool) (st : St),
    (ErrInv st → ErrInv (exec cfg n sub td st).1) ∧ (st.last.isSome = true → (exec cfg n sub td st).1.last.isSome = true) :=
  fun n sub td st => ⟨(exec_rel (progress_compositional cfg) n sub td st).1.errInv, exec_last_kept cfg n sub td st⟩

end OpenHTF.Exec
