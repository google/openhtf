import OpenHTF.Model.Exec
/- Orderings on executor states: a later state of the same run (`Later`); what the executor did in between (`Progress`). -/
namespace OpenHTF.Exec

/-- events the executor itself emits: body invocations, run_if evaluations, phase diagnosers -/
def isExecEv : Ev → Bool
  | .body _ _ | .runIf _ _ | .diag _ _ _ => true
  | _ => false

/-- the call log only grows, and only by executor events -/
def Ext (a b : St) : Prop := ∃ es, b.events = a.events ++ es ∧ ∀ e ∈ es, isExecEv e = true
theorem Ext.refl (a : St) : Ext a a := ⟨[], by simp, by simp⟩
theorem Ext.trans {a b c : St} (h1 : Ext a b) (h2 : Ext b c) : Ext a c := by
  obtain ⟨e1, h1, q1⟩ := h1; obtain ⟨e2, h2, q2⟩ := h2
  exact ⟨e1 ++ e2, by rw [h2, h1, List.append_assoc], List.forall_mem_append.2 ⟨q1, q2⟩⟩
theorem Ext.of_eq {a b : St} (h : b.events = a.events) : Ext a b := ⟨[], by simp [h], by simp⟩

/-- the records of `b` extend those of `a` -/
def Grows (a b : St) : Prop := ∃ recs, b.phases = a.phases ++ recs
theorem Grows.refl (a : St) : Grows a a := ⟨[], by simp⟩
theorem Grows.trans {a b c : St} (h1 : Grows a b) (h2 : Grows b c) : Grows a c := by
  obtain ⟨r1, e1⟩ := h1; obtain ⟨r2, e2⟩ := h2
  exact ⟨r1 ++ r2, by rw [e2, e1, List.append_assoc]⟩
theorem Grows.mem {a b : St} (h : Grows a b) {r : PhaseRec} (hr : r ∈ a.phases) : r ∈ b.phases := by
  obtain ⟨rs, e⟩ := h; rw [e]; exact List.mem_append_left _ hr

/-- the run_if call log of `b` extends that of `a` -/
def GrowsRI (a b : St) : Prop := ∃ l, b.runIfCalls = a.runIfCalls ++ l
theorem GrowsRI.refl (a : St) : GrowsRI a a := ⟨[], by simp⟩
theorem GrowsRI.trans {a b c : St} (h1 : GrowsRI a b) (h2 : GrowsRI b c) : GrowsRI a c := by
  obtain ⟨r1, e1⟩ := h1; obtain ⟨r2, e2⟩ := h2
  exact ⟨r1 ++ r2, by rw [e2, e1, List.append_assoc]⟩
theorem GrowsRI.mem {a b : St} (h : GrowsRI a b) {x : Nat} (hx : x ∈ a.runIfCalls) : x ∈ b.runIfCalls := by
  obtain ⟨rs, e⟩ := h; rw [e]; exact List.mem_append_left _ hx

/-- phase `p` is accounted for in state `fin`: it has a record, or it has a `run_if` and that was evaluated -/
def Acc (fin : St) (p : Phase) : Prop :=
  (∃ r ∈ fin.phases, r.id = p.id) ∨ (p.opts.runIf.isSome = true ∧ p.id ∈ fin.runIfCalls)

/-- `b` is a later state of the same run: records, run_if log and call log extend those of `a`, and an outcome that
    was remembered stays remembered -/
structure Later (a b : St) : Prop where
  grows : Grows a b
  runIf : GrowsRI a b
  ext : Ext a b
  last : a.last.isSome = true → b.last.isSome = true

theorem Later.trans {a b c : St} (h1 : Later a b) (h2 : Later b c) : Later a c :=
  ⟨h1.grows.trans h2.grows, h1.runIf.trans h2.runIf, h1.ext.trans h2.ext, h2.last ∘ h1.last⟩
theorem Later.acc {a b : St} {p : Phase} (h : Later a b) (hp : Acc a p) : Acc b p := by
  rcases hp with ⟨r, hr, hid⟩ | ⟨hs, hm⟩
  · exact .inl ⟨r, h.grows.mem hr, hid⟩
  · exact .inr ⟨hs, h.runIf.mem hm⟩

/-- only terminal outcomes are ever remembered -/
def LastTerm (st : St) : Prop := ∀ r, st.last = some r → r.isTerminal = true

/-- every ERROR record is accompanied by a remembered terminal outcome — except a timeout record
    (which `repeat_on_timeout` may have retried) -/
def ErrInv (st : St) : Prop := ∀ r ∈ st.phases, r.outcome = .error → r.result = .timeout ∨ st.last.isSome = true

/-- the executor got from `a` to the later state `b`: an outcome it remembered on the way is terminal, and an ERROR
    record it wrote on the way is a timeout or comes with a remembered outcome -/
structure Progress (a b : St) : Prop extends Later a b where
  remembered : ∀ x, b.last = some x → a.last = some x ∨ x.isTerminal = true
  -- "an outcome is remembered in `b`", not "when the record was written": `Later.last` carries that on, so `trans` holds
  errors : ∀ r ∈ b.phases, r.outcome = .error → r ∈ a.phases ∨ r.result = .timeout ∨ b.last.isSome = true

namespace Progress
variable {a b c : St}

theorem trans (h1 : Progress a b) (h2 : Progress b c) : Progress a c where
  toLater := h1.toLater.trans h2.toLater
  remembered x hx := (h2.remembered x hx).elim (h1.remembered x) .inr
  errors r hr he := (h2.errors r hr he).elim (fun hm => (h1.errors r hm he).imp_right (.imp_right h2.last)) .inr

theorem same (hp : b.phases = a.phases) (hr : b.runIfCalls = a.runIfCalls) (he : b.events = a.events) (hl : b.last = a.last) :
    Progress a b :=
  ⟨⟨⟨[], by simp [hp]⟩, ⟨[], by simp [hr]⟩, .of_eq he, by simp [hl]⟩, fun _ hx => .inl (hl ▸ hx), fun _ hm _ => .inl (hp ▸ hm)⟩

theorem lastTerm (h : Progress a b) (ha : LastTerm a) : LastTerm b := fun x hx => (h.remembered x hx).elim (ha x) id

theorem errInv (h : Progress a b) (ha : ErrInv a) : ErrInv b := fun r hr he =>
  (h.errors r hr he).elim (fun hm => (ha r hm he).imp_right h.last) id

end Progress

end OpenHTF.Exec
