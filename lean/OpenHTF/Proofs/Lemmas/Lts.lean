/-
Labelled transition systems `step : S → A → Option S` (`none`: the action is not enabled) with `run`, the iteration of
`step` along a list of actions. Every model defines its own; the lemmas here take them with the two equations of `run`:
they hold by `rfl` where `run` is written with `bind`, by `rw [run]; cases step s a <;> rfl` where with `match`.
-/
namespace OpenHTF.Lts

/-- An action with a guard in front. Applied to `hs : step s a = some s'` for a constructor `a` it opens the step by
    unfolding alone, much cheaper than rewriting with the equations of `step` where the state has many fields. -/
theorem guard {S : Type} {c : Prop} [Decidable c] {o : Option S} {s' : S} (h : (if c then o else none) = some s') :
    c ∧ o = some s' := by
  split at h
  · exact ⟨‹c›, h⟩
  · cases h

theorem guarded {S : Type} {c : Prop} [Decidable c] {x s' : S} (h : (if c then some x else none) = some s') : c ∧ x = s' :=
  (guard h).imp_right Option.some.inj

theorem enabled {S : Type} {c : Prop} [Decidable c] {x : S} (h : c) : (if c then some x else none).isSome = true := by
  rw [if_pos h]; rfl

/-- A property kept by every step of an action allowed by `ok` is kept by every run of such actions. -/
theorem run_induction_on {S A : Type} (step : S → A → Option S) (run : S → List A → Option S)
    (nil : ∀ s, run s [] = some s) (cons : ∀ s a as, run s (a :: as) = (step s a).bind (run · as))
    (ok : A → Prop) (P : S → Prop) (hstep : ∀ s s' a, ok a → P s → step s a = some s' → P s') :
    ∀ as s s', (∀ a ∈ as, ok a) → P s → run s as = some s' → P s'
  | [], s, s', _, h, hr => by
    rw [nil] at hr
    exact Option.some.inj hr ▸ h
  | a :: as, s, s', hok, h, hr => by
    rw [cons] at hr
    obtain ⟨s1, h1, h2⟩ := Option.bind_eq_some_iff.mp hr
    exact run_induction_on step run nil cons ok P hstep as s1 s' (fun b hb => hok b (List.mem_cons_of_mem a hb))
      (hstep s s1 a (hok a List.mem_cons_self) h h1) h2

theorem run_induction {S A : Type} (step : S → A → Option S) (run : S → List A → Option S)
    (nil : ∀ s, run s [] = some s) (cons : ∀ s a as, run s (a :: as) = (step s a).bind (run · as))
    (P : S → Prop) (hstep : ∀ s s' a, P s → step s a = some s' → P s') :
    ∀ as s s', P s → run s as = some s' → P s' :=
  fun as s s' => run_induction_on step run nil cons (fun _ => True) P (fun s s' a _ => hstep s s' a) as s s'
    (fun _ _ => trivial)

end OpenHTF.Lts
