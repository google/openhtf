import OpenHTF.Model.Validators
/-
C07 — built-in validators: theorems for every limit tuple and every probe value.
-/
namespace OpenHTF.Validators

/-- limits the property quantifies over: absent, or a number that is not NaN (ints, floats incl. ±inf,
    bools, numeric strings with `type=`) -/
def Lim.wf : Lim → Bool
  | .none => true
  | .num v => v.numeric
  | .conv v => v.numeric
def Range.wf (r : Range) : Bool := r.min.wf && r.max.wf && r.mmin.wf && r.mmax.wf

/-- `<=` on floats and ints, NaN included, is the order on the numbers and false once a NaN is involved -/
theorem le?_eq (a b : V) (ha : a.numeric = true ∨ a = .nan) (hb : b.numeric = true ∨ b = .nan) :
    le? a b = some (a.numeric && b.numeric && a.leq b) := by
  -- the 16 pairs the hypotheses allow compute; in the others `ha` or `hb` is false
  cases a <;> cases b <;> first | rfl | simp [V.numeric] at ha hb
theorem V.leq_fin (x y : Int) : (V.fin x).leq (.fin y) = decide (x ≤ y) := rfl
theorem le?_numeric (a b : V) (ha : a.numeric = true) (hb : b.numeric = true) : le? a b = some (a.leq b) := by
  simp [le?_eq a b (.inl ha) (.inl hb), ha, hb]
theorem lt?_numeric (a b : V) (ha : a.numeric = true) (hb : b.numeric = true) : lt? a b = some (!(b.leq a)) := by
  cases a <;> cases b <;> simp [V.numeric] at ha hb <;> first | rfl | simp [lt?, V.leq_fin, ← Int.not_le]
theorem lt?_str_left (b : V) : lt? .str b = Option.none := by cases b <;> rfl
theorem lt?_str_right (a : V) : lt? a .str = Option.none := by cases a <;> rfl

theorem wf_val (l : Lim) (h : l.wf = true) (hn : l.isNone = false) : l.val.numeric = true := by
  cases l <;> simp_all [Lim.wf, Lim.isNone, Lim.val]

theorem below?_numeric (l : Lim) (v : V) (hl : l.wf = true) (hv : v.numeric = true) :
    below? l v = some (!(l.isNone || l.val.leq v)) := by
  unfold below?
  cases hn : l.isNone
  · simp [lt?_numeric _ _ hv (wf_val l hl hn)]
  · rfl
theorem above?_numeric (l : Lim) (v : V) (hl : l.wf = true) (hv : v.numeric = true) :
    above? l v = some (!(l.isNone || v.leq l.val)) := by
  unfold above?
  cases hn : l.isNone
  · simp [lt?_numeric _ _ (wf_val l hl hn) hv]
  · rfl

theorem numeric_ne_none {v : V} (hv : v.numeric = true) : v ≠ .none := by rintro rfl; cases hv
theorem isNan_numeric {v : V} (hv : v.numeric = true) : isNan v = some false := by cases v <;> first | rfl | cases hv

/-- `in_range` accepts exactly the values inside the limits: numeric, not NaN, min ≤ v ≤ max with both
    bounds inclusive; and it never raises on a numeric value. (At least one bound is given: the
    constructor rejects a range without bounds.) -/
theorem c07_inrange_iff (r : Range) (hwf : r.wf = true) (hb : (r.min.isNone && r.max.isNone) = false) (v : V) :
    (inRange r v = .accept ↔ Spec.inside r v = true) ∧ (v.numeric = true → inRange r v ≠ .raises) := by
  simp only [Range.wf, Bool.and_eq_true] at hwf
  obtain ⟨⟨⟨h1, h2⟩, _⟩, _⟩ := hwf
  by_cases hv : v.numeric = true
  · simp only [inRange, numeric_ne_none hv, isNan_numeric hv, if_false, below?_numeric _ _ h1 hv, above?_numeric _ _ h2 hv,
      Spec.inside, hv, Bool.true_and]
    cases (r.min.isNone || r.min.val.leq v) <;> cases (r.max.isNone || v.leq r.max.val) <;> simp
  · refine ⟨?_, fun h => absurd h hv⟩
    -- None and NaN are rejected, a string raises, and none of them is inside: both sides compute
    cases v <;> first | exact absurd rfl hv | exact ⟨nofun, nofun⟩

/-- None and NaN never pass a numeric range -/
theorem c07_none_nan_never_pass (r : Range) :
    inRange r .none = .reject ∧ inRange r .nan = .reject ∧
    inRangeMarginal r .none = .reject ∧ inRangeMarginal r .nan = .reject := by
  simp [inRange, inRangeMarginal, isNan]

theorem between?_numeric (a v b : V) (ha : a.numeric = true) (hv : v.numeric = true) (hb : b.numeric = true) :
    between? a v b = some (a.leq v && v.leq b) := by
  unfold between?
  rw [le?_numeric a v ha hv, le?_numeric v b hv hb]
  cases a.leq v <;> rfl

theorem band?_numeric (m : Lim) (lo v hi : V) (hv : v.numeric = true)
    (h : m.isNone = false → lo.numeric = true ∧ hi.numeric = true) :
    band? m lo v hi = some (!m.isNone && lo.leq v && v.leq hi) := by
  unfold band?
  cases hm : m.isNone
  · simp [between?_numeric _ _ _ (h hm).1 hv (h hm).2]
  · rfl

/-- a passing value is marginal exactly when it lies between a bound and that bound's marginal limit
    (inclusive), for every range the constructor accepts -/
theorem c07_marginal_iff_band (r : Range) (hwf : r.wf = true) (hc : ctorRejects r = false) (v : V)
    (hacc : inRange r v = .accept) :
    (inRangeMarginal r v = .accept ↔ Spec.inBand r v = true) ∧ inRangeMarginal r v ≠ .raises := by
  -- of what the constructor checks only this matters here: a marginal limit comes with its bound
  simp only [ctorRejects, Bool.or_eq_false_iff] at hc
  obtain ⟨⟨⟨⟨⟨⟨hb, _⟩, hmm⟩, hmx⟩, _⟩, _⟩, _⟩ := hc
  have hv : v.numeric = true := by
    have := (c07_inrange_iff r hwf hb v).1.mp hacc
    simp only [Spec.inside, Bool.and_eq_true] at this
    exact this.1.1
  simp only [Range.wf, Bool.and_eq_true] at hwf
  obtain ⟨⟨⟨h1, h2⟩, h3⟩, h4⟩ := hwf
  simp only [inRangeMarginal, numeric_ne_none hv, isNan_numeric hv, if_false, Spec.inBand,
    band?_numeric r.mmin _ _ _ hv fun h => ⟨wf_val _ h1 (by simpa [h] using hmm), wf_val _ h3 h⟩,
    band?_numeric r.mmax _ _ _ hv fun h => ⟨wf_val _ h4 h, wf_val _ h2 (by simpa [h] using hmx)⟩]
  cases (!r.mmin.isNone && r.min.val.leq v && v.leq r.mmin.val) <;>
    cases (!r.mmax.isNone && r.mmax.val.leq v && v.leq r.max.val) <;> simp

/-- the inconsistent limit tuples, stated with the order on numbers (strings are exempt: they may be
    templates for `with_args`) -/
def Spec.inconsistent (r : Range) : Bool :=
  let gt (a b : Lim) := a.isNumber && b.isNumber && !(a.val.leq b.val)
  (r.min.isNone && r.max.isNone) || gt r.min r.max || (!r.mmin.isNone && r.min.isNone) ||
  (!r.mmax.isNone && r.max.isNone) || gt r.min r.mmin || gt r.mmax r.max || gt r.mmin r.mmax

theorem gtNum_spec (a b : Lim) (ha : a.wf = true) (hb : b.wf = true) :
    gtNum a b = (a.isNumber && b.isNumber && !(a.val.leq b.val)) := by
  unfold gtNum
  cases a <;> cases b <;> try rfl
  simp [Lim.isNumber, Lim.val, lt?_numeric _ _ hb ha]

/-- construction rejects exactly the inconsistent numeric limit tuples: min > max, a marginal limit
    without its bound or outside it, marginal minimum above marginal maximum, no bound at all -/
theorem c07_ctor_rejects_iff_inconsistent (r : Range) (hwf : r.wf = true) :
    ctorRejects r = Spec.inconsistent r := by
  simp only [Range.wf, Bool.and_eq_true] at hwf
  obtain ⟨⟨⟨h1, h2⟩, h3⟩, h4⟩ := hwf
  simp only [ctorRejects, Spec.inconsistent, gtNum_spec _ _ h1 h2, gtNum_spec _ _ h1 h3, gtNum_spec _ _ h4 h2,
    gtNum_spec _ _ h3 h4]

/-- `equals(number)` is the degenerate range: it accepts exactly that number (no NaN, no None) -/
theorem c07_equals_number (n : Int) (v : V) :
    inRange ⟨.num (.fin n), .num (.fin n), .none, .none⟩ v = .accept ↔ v = .fin n := by
  rw [(c07_inrange_iff _ rfl rfl v).1]
  cases v with
  | fin z => simp [Spec.inside, V.numeric, Lim.isNone, Lim.val, V.leq_fin]; omega
  | _ => simp [Spec.inside, V.numeric, Lim.isNone, Lim.val, V.leq, V.key]

theorem allM_eq_all (f : V → Option Bool) (g : V → Bool) (vs : List V)
    (h : ∀ v ∈ vs, f v = some (g v)) : allM f vs = some (vs.all g) := by
  induction vs with
  | nil => rfl
  | cons x xs ih =>
    simp only [allM, h x List.mem_cons_self, List.all_cons, ih fun v hv => h v (List.mem_cons_of_mem _ hv)]
    cases g x <;> rfl

/-- one pass of `all_in_range` over the list: the bound is absent, or every element is a number within it -/
theorem allM_bound (l : Lim) (f : V → Option Bool) (g : V → Bool) (vs : List V)
    (h : l.isNone = false → ∀ v ∈ vs, f v = some (v.numeric && g v)) :
    (if l.isNone then some true else allM f vs) = some (vs.all fun v => l.isNone || v.numeric && g v) := by
  cases hn : l.isNone
  · exact allM_eq_all _ _ vs (h hn)
  · simp

/-- `all_in_range` accepts a list exactly when every element is inside the limits (NaN elements never
    are); it does not raise on lists of numbers -/
theorem c07_allinrange_iff (r : Range) (hwf : r.wf = true) (hb : (r.min.isNone && r.max.isNone) = false)
    (vs : List V) (hvs : ∀ v ∈ vs, v.numeric = true ∨ v = .nan) :
    allInRange r vs = .accept ↔ ∀ v ∈ vs, Spec.inside r v = true := by
  simp only [Range.wf, Bool.and_eq_true] at hwf
  obtain ⟨⟨⟨h1, h2⟩, _⟩, _⟩ := hwf
  have hmax := allM_bound r.max (le? · r.max.val) (·.leq r.max.val) vs fun hn v hv => by
    simp [le?_eq _ _ (hvs v hv) (.inl (wf_val _ h2 hn)), wf_val _ h2 hn]
  have hmin := allM_bound r.min (le? r.min.val) r.min.val.leq vs fun hn v hv => by
    simp [le?_eq _ _ (.inl (wf_val _ h1 hn)) (hvs v hv), wf_val _ h1 hn]
  -- as one bound is present, that an element is a number is checked with that bound
  have hin (v : V) : Spec.inside r v =
      ((r.min.isNone || v.numeric && r.min.val.leq v) && (r.max.isNone || v.numeric && v.leq r.max.val)) := by
    unfold Spec.inside
    revert hb
    cases r.min.isNone <;> cases v.numeric <;> simp
  simp only [allInRange, hmax, hmin, hin, Bool.and_eq_true, List.all_eq_true, imp_and, forall_and]
  split
  · next h => exact iff_of_true rfl h
  · next h => exact iff_of_false nofun h

/-- the tolerance is symmetric around the expected value, also for negative expected values -/
theorem c07_percent_symmetric (c : Pct) (d : Int) : pctAccept c (c.e + d) = pctAccept c (c.e - d) := by
  unfold pctAccept
  rw [show c.e + d - c.e = d by omega, show c.e - d - c.e = -d by omega, Int.mul_neg, Int.natAbs_neg]

/-- acceptance is the closed interval e ± |e·p|/100 (stated without division) -/
theorem c07_percent_bounds (c : Pct) (v : Int) :
    pctAccept c v = true ↔
      100 * c.e - ((c.e * c.p).natAbs : Int) ≤ 100 * v ∧ 100 * v ≤ 100 * c.e + ((c.e * c.p).natAbs : Int) := by
  unfold pctAccept
  rw [decide_eq_true_eq]
  -- whatever the tolerance is: |x| ≤ n ↔ -n ≤ x ≤ n
  generalize (c.e * c.p).natAbs = n
  omega

/-- a marginal value always lies inside the tolerance -/
theorem c07_percent_marginal_inside (c : Pct) (v : Int) (h : pctMarginal c v = true) : pctAccept c v = true := by
  unfold pctMarginal at h
  unfold pctAccept
  split at h
  · cases h
  · split at h
    · cases h
    · simp only [Bool.and_eq_true, decide_eq_true_eq] at h ⊢
      exact Nat.le_of_lt h.1

/-- with consistent percents (0 ≤ mp < p) the marginal band is exactly the part of the tolerance at or
    beyond the marginal tolerance, boundary of the tolerance excluded -/
theorem c07_percent_marginal_iff (c : Pct) (m : Int) (v : Int) (hm : c.mp = some m) (hm0 : m ≠ 0) :
    pctMarginal c v = true ↔
      (100 * (v - c.e)).natAbs < (c.e * c.p).natAbs ∧ (c.e * m).natAbs ≤ (100 * (v - c.e)).natAbs := by
  simp [pctMarginal, hm, hm0]

/-- `WithinPercent.__call__` on the bounds it reports: the closed interval, never raising on numbers -/
theorem c07_pctcall_iff (mn mx v : V) (h1 : mn.numeric = true) (h2 : mx.numeric = true) (hv : v.numeric = true) :
    pctCall mn mx v = (if mn.leq v && v.leq mx then .accept else .reject) := by
  unfold pctCall
  rw [between?_numeric mn v mx h1 hv h2]
  cases (mn.leq v && v.leq mx) <;> rfl

/-- the pivot validators: all rows pass / once a row passes all later rows pass -/
theorem c07_pivot (vs : List Bool) : pivot vs = true ↔ ∀ b ∈ vs, b = true := by
  simp [pivot, List.all_eq_true]

theorem c07_consistent_end (vs : List Bool) :
    consistentEnd vs = true ↔ ∃ pre post, vs = pre ++ post ∧ post ≠ [] ∧ (∀ b ∈ pre, b = false) ∧ (∀ b ∈ post, b = true) := by
  unfold consistentEnd
  constructor
  · -- the failing rows at the front, and the rest
    intro h
    refine ⟨vs.takeWhile (!·), vs.dropWhile (!·), List.takeWhile_append_dropWhile.symm, ?_, ?_, ?_⟩
    · intro e
      simp [e] at h
    · intro b hb
      simpa using List.all_eq_true.mp List.all_takeWhile b hb
    · cases hd : vs.dropWhile (!·) <;> simp_all
  · rintro ⟨pre, post, rfl, hne, hpre, hpost⟩
    rw [List.dropWhile_append_of_pos (by simpa using hpre)]
    cases post with
    | nil => exact absurd rfl hne
    | cons x xs => simpa [hpost x List.mem_cons_self] using hpost

/-- `equals('literal')`: accepts the literal and nothing that differs by more than one trailing newline -/
theorem c07_equals_str (lit v : List Nat) : equalsStr lit v = true ↔ v = lit ∨ v = lit ++ [10] := by
  simp [equalsStr]

/-- `all_equals('literal')`: accepts exactly the lists all of whose elements are the literal -/
theorem c07_all_equals_str (lit : List Nat) (vs : List (List Nat)) :
    allEqualsStr lit vs = true ↔ ∀ v ∈ vs, v = lit := by
  simp [allEqualsStr]

/-- non-vacuity: a range the constructor accepts with both marginal bands, and a marginal passing value -/
example : ctorRejects ⟨.num (.fin 0), .num (.fin 10), .conv (.fin 2), .num (.fin 8)⟩ = false ∧
    inRange ⟨.num (.fin 0), .num (.fin 10), .conv (.fin 2), .num (.fin 8)⟩ (.fin 9) = .accept ∧
    inRangeMarginal ⟨.num (.fin 0), .num (.fin 10), .conv (.fin 2), .num (.fin 8)⟩ (.fin 9) = .accept := by decide

end OpenHTF.Validators
