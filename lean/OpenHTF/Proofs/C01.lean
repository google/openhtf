import OpenHTF.Proofs.Lemmas.Exec
/-
C01 — no false PASS. For every test program (any tree), every behaviour oracle, every configuration.
-/
namespace OpenHTF.Exec

/-- the test diagnosers are progress too: no record; one that raises is remembered, unless an outcome is already -/
theorem runTestDiagnosers_progress (ds : List DiagRun) (st : St) : Progress st (runTestDiagnosers st ds) := by
  refine List.foldlRecOn ds _ (motive := Progress st) (.same rfl rfl rfl rfl) fun s h d _ => h.trans ?_
  have raised : Progress s { s with last := some (.exc false) } :=
    ⟨⟨.refl s, .refl s, .refl s, fun _ => rfl⟩, fun _ hx => by cases hx; exact .inr rfl, fun _ hr _ => .inl hr⟩
  cases d with
  | results rs => exact .same rfl rfl rfl rfl
  | raises =>
    dsimp only
    split
    · split
      · exact .same rfl rfl rfl rfl
      · exact raised
    · exact raised

/-- The run: test_start's invocation loop (if there is one) from the empty state; it ends there if the result is terminal
    (which is then remembered), else the nodes and the test diagnosers follow from the state `s0` it left. -/
theorem runTest_shape (cfg : Cfg) (t : Test) : ∃ s0 : St, Progress {} s0 ∧
    ((runTest cfg t = s0 ∧ s0.last.isSome = true) ∨
      runTest cfg t = runTestDiagnosers (execAb cfg t.nodes none s0).1 t.testDiags) := by
  unfold runTest
  cases t.testStart with
  | none => exact ⟨{}, .same rfl rfl rfl rfl, .inr rfl⟩
  | some p =>
    obtain ⟨recs, a, _⟩ := executePhase_spec cfg p none {}
    dsimp only
    split
    · rename_i ht
      exact ⟨_, a.progress (setLast_progress _ ht) fun _ => setLast_isSome _ _, .inl ⟨rfl, setLast_isSome _ _⟩⟩
    · rename_i ht
      exact ⟨_, a.progress (.same rfl rfl rfl rfl) (absurd · ht), .inr rfl⟩

theorem runTest_progress (cfg : Cfg) (t : Test) : Progress {} (runTest cfg t) := by
  obtain ⟨s0, h0, ⟨e, _⟩ | e⟩ := runTest_shape cfg t <;> rw [e]
  · exact h0
  · exact h0.trans ((execAb_rel (progress_compositional cfg) t.nodes none s0).1.trans (runTestDiagnosers_progress _ _))

theorem runTest_ErrInv (cfg : Cfg) (t : Test) : ErrInv (runTest cfg t) := (runTest_progress cfg t).errInv fun _ h => nomatch h

theorem runTest_LastTerm (cfg : Cfg) (t : Test) : LastTerm (runTest cfg t) := (runTest_progress cfg t).lastTerm fun _ h => nomatch h

theorem finalize_terminal {st : St} {r : Res} (hl : st.last = some r) (ht : r.isTerminal = true) : finalize st ≠ .pass := by
  rw [finalize, hl]
  cases r with
  | pr x => cases x <;> simp_all [Res.isTerminal]
  | exc b => cases b <;> simp
  | timeout => simp

theorem finalizeNormally_eq (st : St) : finalizeNormally st =
    if ∃ r ∈ st.phases, r.outcome = .fail then .fail
    else if st.phases ≠ [] ∧ ∀ r ∈ st.phases, r.outcome = .skip then .error
    else if ∃ d ∈ st.diagnoses, d.2 = true then .fail
    else if ∃ s ∈ st.subtests, s.2 = .fail then .fail
    else .pass := by
  simp only [finalizeNormally, List.any_eq_true, List.all_eq_true, beq_iff_eq, Bool.and_eq_true, Bool.not_eq_true',
    List.isEmpty_eq_false_iff, ne_eq]

theorem finalize_none {st : St} (h : st.last = none) : finalize st = finalizeNormally st := by rw [finalize, h]

theorem finalizeNormally_pass {st : St} (h : finalizeNormally st = .pass) :
    (∀ r ∈ st.phases, r.outcome ≠ .fail) ∧ (st.phases ≠ [] → ∃ r ∈ st.phases, r.outcome ≠ .skip) ∧
    (∀ d ∈ st.diagnoses, d.2 = false) ∧ ∀ s ∈ st.subtests, s.2 ≠ .fail := by
  rw [finalizeNormally_eq] at h
  -- PASS is the last row: every condition above it is false
  by_cases h1 : ∃ r ∈ st.phases, r.outcome = .fail
  · rw [if_pos h1] at h; cases h
  by_cases h2 : st.phases ≠ [] ∧ ∀ r ∈ st.phases, r.outcome = .skip
  · rw [if_neg h1, if_pos h2] at h; cases h
  by_cases h3 : ∃ d ∈ st.diagnoses, d.2 = true
  · rw [if_neg h1, if_neg h2, if_pos h3] at h; cases h
  by_cases h4 : ∃ s ∈ st.subtests, s.2 = .fail
  · rw [if_neg h1, if_neg h2, if_neg h3, if_pos h4] at h; cases h
  refine ⟨fun r hr he => h1 ⟨r, hr, he⟩, fun hne => ?_, fun d hd => ?_, fun s hs he => h4 ⟨s, hs, he⟩⟩
  · exact Classical.byContradiction fun hn => h2 ⟨hne, fun r hr => Classical.byContradiction fun hs => hn ⟨r, hr, hs⟩⟩
  · exact Bool.eq_false_iff.mpr fun hd' => h3 ⟨d, hd, hd'⟩

/-- No false PASS. If the run's outcome is PASS (execute() returns True) then: no recorded phase is
    FAIL; no recorded phase is ERROR other than a timed-out invocation that `repeat_on_timeout` retried
    (known finding: the statement without that exemption is false, see `c01_repeat_on_timeout_counterexample`);
    no failure diagnosis exists; no subtest failed; the phase records, if any, are not all SKIP; and no
    terminal outcome (exception, timeout, STOP, plug/diagnoser failure) was recorded by the executor. -/
theorem c01_no_false_pass (cfg : Cfg) (t : Test) (hpass : outcome cfg t = .pass) :
    let st := runTest cfg t
    (∀ r ∈ st.phases, r.outcome ≠ .fail) ∧
    (∀ r ∈ st.phases, r.outcome = .error → r.result = .timeout) ∧
    (∀ d ∈ st.diagnoses, d.2 = false) ∧
    (∀ s ∈ st.subtests, s.2 ≠ .fail) ∧
    (st.phases ≠ [] → ∃ r ∈ st.phases, r.outcome ≠ .skip) ∧
    st.last = none := by
  intro st
  have hpass : finalize st = .pass := hpass
  -- a remembered outcome would be terminal; so none is, and `finalize_normally` decided
  have hlast : st.last = none := by
    cases hl : st.last with
    | none => rfl
    | some r => exact absurd hpass (finalize_terminal hl (runTest_LastTerm cfg t r hl))
  rw [finalize_none hlast] at hpass
  obtain ⟨h1, h2, h3, h4⟩ := finalizeNormally_pass hpass
  exact ⟨h1, fun r hr he => (runTest_ErrInv cfg t r hr he).resolve_right (by rw [hlast]; simp), h3, h4, h2, hlast⟩

/-- known finding (repeat_on_timeout): a timed-out invocation is recorded as ERROR, the phase is run
    again, and the test can still PASS — so "no recorded phase is ERROR" needs the exemption above -/
theorem c01_repeat_on_timeout_counterexample :
    let p : Phase := { id := 1, opts := { repeatOnTimeout := true },
                       beh := fun k => if k = 0 then { raw := .timeout } else { raw := .ret .cont } }
    outcome {} { nodes := [.phase p] } = .pass ∧
    (runTest {} { nodes := [.phase p] }).phases.map (·.outcome) = [.error, .pass] := by decide +kernel

/-- Conversely: the remembered terminal outcome decides (exception → ERROR, or FAIL if listed in
    failure_exceptions; timeout → TIMEOUT; STOP → FAIL), else a FAIL record gives FAIL, else all-SKIP
    gives ERROR, else a failure diagnosis or a failed subtest gives FAIL. -/
theorem c01_converse (st : St) :
    (st.last = some (.exc false) → finalize st = .error) ∧
    (st.last = some (.exc true) → finalize st = .fail) ∧
    (st.last = some .timeout → finalize st = .timeout) ∧
    (st.last = some (.pr .stop) → finalize st = .fail) ∧
    (st.last = none → (∃ r ∈ st.phases, r.outcome = .fail) → finalize st = .fail) ∧
    (st.last = none → st.phases ≠ [] → (∀ r ∈ st.phases, r.outcome = .skip) → finalize st = .error) ∧
    (st.last = none → (∀ r ∈ st.phases, r.outcome ≠ .fail) → (∃ r ∈ st.phases, r.outcome ≠ .skip) →
        ((∃ d ∈ st.diagnoses, d.2 = true) ∨ (∃ s ∈ st.subtests, s.2 = .fail)) → finalize st = .fail) := by
  refine ⟨fun h => by rw [finalize, h], fun h => by rw [finalize, h], fun h => by rw [finalize, h],
    fun h => by rw [finalize, h], ?_, ?_, ?_⟩ <;> intro h <;> rw [finalize_none h, finalizeNormally_eq]
  · exact fun hf => if_pos hf
  · intro hne hall
    have nofail : ¬ ∃ r ∈ st.phases, r.outcome = .fail := fun ⟨r, hr, he⟩ => by rw [hall r hr] at he; cases he
    rw [if_neg nofail, if_pos ⟨hne, hall⟩]
  · rintro hnf ⟨r, hr, hns⟩ hd
    rw [if_neg fun ⟨r, hr, he⟩ => hnf r hr he, if_neg fun h => hns (h.2 r hr)]
    split
    · rfl
    · exact if_pos (hd.resolve_left ‹_›)

/-- the first terminal event decides: a later one does not replace it -/
theorem c01_first_terminal_decides (st : St) (a b : Res) : setLast (setLast st a) b = setLast st a := by
  unfold setLast; cases st.last <;> simp

theorem any_raise_or_fail (ds : List DiagRun) :
    ds.any (fun d => match d with | .results rs => rs.any (·.2) | .raises => true) =
      (ds.any (· == .raises) || ds.any (fun d => match d with | .results rs => rs.any (·.2) | .raises => false)) := by
  induction ds with
  | nil => rfl
  | cons d ds ih => cases d <;> simp [ih, Bool.or_assoc, Bool.or_left_comm]

/-- a PASS record certifies its invocation (C05 table read backwards): the body returned
    None/CONTINUE, every measurement passed (UNSET only if allowed), no diagnoser raised and no failure
    diagnosis was made -/
theorem c01_pass_record_certifies (cfg : Cfg) (o : Opts) (inSub isLast : Bool) (inv : Inv)
    (h : (finalizeInvocation cfg o inSub isLast inv).outcome = .pass) :
    inv.raw = .ret .cont ∧ measurementsPass cfg inv.meas = true ∧
    inv.diags.any (fun d => match d with | .results rs => rs.any (·.2) | .raises => true) = false := by
  rw [(finalizeInvocation_abs cfg o inSub isLast inv).1] at h
  rw [any_raise_or_fail]
  exact (absInvocation_pass _ _ _ _ _ _ _ h).imp_left (threadResult_cont _ _)

/-- No record is ever removed or rewritten: whatever node is executed, in whatever mode, the record
    list afterwards extends the record list before. -/
theorem c01_records_only_appended (cfg : Cfg) (n : Node) (sub : Option Nat) (td : Bool) (st : St) :
    Grows st (exec cfg n sub td st).1 :=
  (exec_rel (progress_compositional cfg) n sub td st).1.grows

mutual
/-- every phase a node declares outside branches and subtests, with or without `run_if` -/
def declaredU : Node → List Phase
  | .phase p => [p]
  | .checkpoint _ => []
  | .seq ns => declaredUL ns
  | .subtest _ _ => []
  | .branch _ _ _ => []
  | .group s m t => declaredUL s ++ (declaredUL m ++ declaredUL t)
def declaredUL : List Node → List Phase
  | [] => []
  | n :: ns => declaredU n ++ declaredUL ns
end

/-- Accounted, with `run_if`: when a node outside any subtest returns CONTINUE, every phase it declares outside
    branches and subtests has a record of its own, or has a `run_if` which was evaluated (and, the node having
    returned CONTINUE, did not raise). -/
theorem c01_declared_phases_accounted_runif (cfg : Cfg) (hc : 0 < cfg.defaultRepeatLimit) :
    ∀ (n : Node) (td : Bool) (st : St), (exec cfg n none td st).2 = .cont →
      ∀ p ∈ declaredU n, Acc (exec cfg n none td st).1 p := by
  intro n td st h p hp
  -- by induction on the tree; of a list of nodes the same is shown for `execL` and `declaredUL`
  induction n using Node.rec (motive_2 := fun ns => ∀ (td : Bool) (st : St), (execL cfg td ns none st).2 = .cont →
    ∀ p ∈ declaredUL ns, Acc (execL cfg td ns none st).1 p) generalizing td st p with
  | phase q =>
    simp only [declaredU, List.mem_singleton] at hp; subst hp
    simp only [exec, execPhaseNode, Option.isSome_none, Bool.and_false, Bool.false_and, Bool.false_eq_true, if_false]
    exact (finishNode_progress _ _).acc (executePhase_acc cfg hc p none st)
  | checkpoint _ | subtest _ _ _ | branch _ _ _ _ => simp [declaredU] at hp
  | seq ns ih => rw [exec_seq] at h ⊢; exact ih td st h p hp
  | group s m t ihs ihm iht =>
    simp only [declaredU, List.mem_append] at hp
    simp only [exec_group, Option.isSome_none, Bool.and_false, Bool.false_and, Bool.or_false, Bool.not_false] at h ⊢
    split at h
    · rename_i hne; rw [h] at hne; cases hne
    · rename_i hcont
      rw [if_neg hcont]
      obtain ⟨h2, h3⟩ := Ret.max_eq_cont h
      -- a phase is accounted for in the part where it ran; `Later.acc` carries that through the parts after it
      have l2 := (execL_rel (progress_compositional cfg) td m none (execL cfg td s none st).1).1
      have l3 := (execL_rel (progress_compositional cfg) true t none (execL cfg td m none (execL cfg td s none st).1).1).1
      rcases hp with hp | hp | hp
      · exact l3.acc (l2.acc (ihs td st (by simpa using hcont) p hp))
      · exact l3.acc (ihm td _ h2 p hp)
      · exact iht true _ h3 p hp
  | nil => rename_i hp; simp [declaredUL] at hp
  | cons n ns ihn ihns =>
    rename_i td st h p hp
    simp only [declaredUL, List.mem_append] at hp
    rw [execL_cons] at h ⊢
    split at h
    · rename_i hne; rw [h] at hne; simp at hne
    · rename_i hgo
      rw [if_neg hgo]
      obtain ⟨h1, h2⟩ := Ret.max_eq_cont h
      rcases hp with hp | hp
      · exact (execL_rel (progress_compositional cfg) td ns none _).1.acc (ihn td st h1 p hp)
      · exact ihns td _ h2 p hp

theorem accountedL (cfg : Cfg) (hc : 0 < cfg.defaultRepeatLimit) (td : Bool) (ns : List Node) (st : St)
    (h : (execL cfg td ns none st).2 = .cont) : ∀ p ∈ declaredUL ns, Acc (execL cfg td ns none st).1 p := by
  rw [← exec_seq] at h ⊢
  exact c01_declared_phases_accounted_runif cfg hc (.seq ns) td st h

mutual
/-- the phases a node declares unconditionally: not inside a branch (which may legitimately not be taken) or a subtest
    (whose remainder is skipped after a failure), and without `run_if` -/
def mustRun : Node → List Phase
  | .phase p => if p.opts.runIf.isNone then [p] else []
  | .checkpoint _ => []
  | .seq ns => mustRunL ns
  | .subtest _ _ => []
  | .branch _ _ _ => []
  | .group s m t => mustRunL s ++ (mustRunL m ++ mustRunL t)
def mustRunL : List Node → List Phase
  | [] => []
  | n :: ns => mustRun n ++ mustRunL ns
end

mutual
theorem mustRun_eq : ∀ n : Node, mustRun n = (declaredU n).filter (·.opts.runIf.isNone)
  | .phase p => by simp only [mustRun, declaredU, List.filter_cons, List.filter_nil]
  | .checkpoint _ | .subtest _ _ | .branch _ _ _ => rfl
  | .seq ns => by rw [mustRun, declaredU, mustRunL_eq ns]
  | .group s m t => by simp only [mustRun, declaredU, List.filter_append, mustRunL_eq s, mustRunL_eq m, mustRunL_eq t]
theorem mustRunL_eq : ∀ ns : List Node, mustRunL ns = (declaredUL ns).filter (·.opts.runIf.isNone)
  | [] => rfl
  | n :: ns => by simp only [mustRunL, declaredUL, List.filter_append, mustRun_eq n, mustRunL_eq ns]
end

theorem Acc.record {fin : St} {p : Phase} (h : Acc fin p) (hp : p.opts.runIf = none) : ∃ r ∈ fin.phases, r.id = p.id :=
  h.resolve_right (by simp [hp])

/-- Accounted (partial): when a node outside any subtest returns CONTINUE, every phase it declares unconditionally
    (`mustRun`: any depth of sequences and groups, setup / main / teardown; not below a branch or subtest; no `run_if`)
    has at least one record of its own in the run's record list. Full statement (checked by the Lean spec on every real
    observation, `Driver/C01.lean: declared-phase-unaccounted`): also phases below taken branches, inside subtests that did
    not fail, and phases whose `run_if` was evaluated true; missing here: the subtest-failure bookkeeping and the run_if
    oracle. Together with `c01_no_false_pass` (PASS ⇒ no FAIL / ERROR record): a passing run has run every such phase. -/
theorem c01_declared_phases_accounted_partial (cfg : Cfg) (hc : 0 < cfg.defaultRepeatLimit) :
    ∀ (n : Node) (td : Bool) (st : St), (exec cfg n none td st).2 = .cont →
      ∀ p ∈ mustRun n, ∃ r ∈ (exec cfg n none td st).1.phases, r.id = p.id :=
  fun n td st h p hp => by
    rw [mustRun_eq, List.mem_filter, Option.isNone_iff_eq_none] at hp
    exact (c01_declared_phases_accounted_runif cfg hc n td st h p hp.1).record hp.2

/-- the hypotheses are satisfiable on a non-trivial tree: a group with setup, main and teardown phases returns CONTINUE
    and declares three phases -/
example :
    let ok : Phase := { id := 1, beh := fun _ => { raw := .ret .cont } }
    let n : Node := .group [.phase ok] [.phase { ok with id := 2 }, .seq [.phase { ok with id := 4 }]] [.phase { ok with id := 3 }]
    (exec {} n none false {}).2 = .cont ∧ (mustRun n).map (·.id) = [1, 2, 4, 3] ∧
      ((exec {} n none false {}).1.phases.map (·.id)) = [1, 2, 4, 3] := by decide

/-- PASS means everything declared unconditionally ran and did not fail: if the run's outcome is PASS, every phase the
    test declares outside branches and subtests and without `run_if` (any depth of sequences and groups, setup, main and
    teardown parts) has a record, and every record of it is neither FAIL nor (other than the retried timeout of the
    known finding) ERROR. -/
theorem c01_pass_means_declared_phases_ran (cfg : Cfg) (hc : 0 < cfg.defaultRepeatLimit) (t : Test)
    (hpass : outcome cfg t = .pass) :
    ∀ p ∈ mustRunL t.nodes, ∃ r ∈ (runTest cfg t).phases, r.id = p.id ∧ r.outcome ≠ .fail ∧
      (r.outcome = .error → r.result = .timeout) := by
  intro p hp
  rw [mustRunL_eq, List.mem_filter, Option.isNone_iff_eq_none] at hp
  obtain ⟨hnf, hne, _, _, _, hlast⟩ := c01_no_false_pass cfg t hpass
  suffices h : ∃ r ∈ (runTest cfg t).phases, r.id = p.id by
    obtain ⟨r, hr, hid⟩ := h
    exact ⟨r, hr, hid, hnf r hr, hne r hr⟩
  obtain ⟨s0, _, ⟨e, hs⟩ | e⟩ := runTest_shape cfg t <;> rw [e] at hlast ⊢
  · rw [hlast] at hs; cases hs
  · -- nothing is remembered at the end, so the node sequence returned CONTINUE
    have hd := runTestDiagnosers_progress t.testDiags (execAb cfg t.nodes none s0).1
    have hcont : (execL cfg false t.nodes none s0).2 = .cont := by
      cases h : (execL cfg false t.nodes none s0).2 with
      | cont => rfl
      | term => have := hd.last ((execL_rel (progress_compositional cfg) false t.nodes none s0).2 h); simp [hlast] at this
    exact (hd.acc (accountedL cfg hc false t.nodes s0 hcont p hp.1)).record hp.2

end OpenHTF.Exec
