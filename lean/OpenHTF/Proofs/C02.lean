import OpenHTF.Proofs.Lemmas.Exec
/-
C02 — node execution follows docs/event_sequence.md. For every tree (any depth, any nesting), every
behaviour oracle, every configuration and every state the executor can be in.
-/
namespace OpenHTF.Exec
open Spec

def modeOf (td : Bool) : Mode := if td then .td else .run

theorem eff_td (sub : Option Nat) (st : St) : eff .td sub st = .td := rfl
theorem eff_run (sub : Option Nat) (st : St) : eff .run sub st = if sub.isSome && st.subFail then .skip else .run := rfl

/-- After a subtest has failed (outside a teardown) every node is processed as `Spec.skipNode`: phases
    are recorded as SKIP without running, branches are not run at all, groups are skipped entirely,
    the node returns CONTINUE and the subtest stays failed. -/
theorem c02_after_subtest_failure_everything_is_skipped (cfg : Cfg) (n : Node) (sub : Option Nat) (st : St)
    (hs : sub.isSome = true) (hf : st.subFail = true) :
    exec cfg n sub false st = (skipNode n sub st, .cont) ∧ (skipNode n sub st).subFail = true := by
  -- by induction on the tree; of a list of nodes the same is shown for `execL` and `skipList`
  induction n using Node.rec (motive_2 := fun ns => ∀ (sub : Option Nat) (st : St), sub.isSome = true → st.subFail = true →
    execL cfg false ns sub st = (skipList ns sub st, .cont) ∧ (skipList ns sub st).subFail = true) generalizing sub st with
  | phase p => simp [exec, execPhaseNode, hs, hf, skipNode, skipPhase]
  | checkpoint c => simp [exec, execCheckpoint, hs, hf, skipNode]
  | seq ns ih => rw [exec_seq, skipNode]; exact ih sub st hs hf
  | subtest name ns ih =>
    have h := ih (some name) st rfl hf
    have e0 : ({ st with subFail := sub.isSome && st.subFail } : St) = st := by cases st; simp_all
    rw [exec_subtest, e0]
    simp [h.1, h.2, skipNode, hf]
  | branch id c ns _ => simp [exec_branch, hs, hf, skipNode]
  | group s m t ihs ihm iht =>
    have h1 := ihs sub st hs hf
    have h2 := ihm sub _ hs h1.2
    have h3 := iht sub _ hs h2.2
    simp [exec_group, hs, hf, h1.1, h2.1, h3.1, h3.2, skipNode, Ret.max]
  | nil => rename_i hf; simp [execL_nil, skipList, hf]
  | cons n ns ihn ihns =>
    rename_i sub st hs hf
    have h1 := ihn sub st hs hf
    have h2 := ihns sub _ hs h1.2
    simp [execL_cons, skipList, h1.1, h2.1, h2.2, Ret.max]

theorem execL_skip (cfg : Cfg) (ns : List Node) (sub : Option Nat) (st : St) (hs : sub.isSome = true) (hf : st.subFail = true) :
    execL cfg false ns sub st = (skipList ns sub st, .cont) ∧ (skipList ns sub st).subFail = true := by
  simpa only [exec_seq, skipNode] using c02_after_subtest_failure_everything_is_skipped cfg (.seq ns) sub st hs hf

/-- the document's skip mode is the executor's test `not in_teardown and subtest failed` -/
theorem mode_cases (td : Bool) (sub : Option Nat) (st : St) :
    (td = false ∧ sub.isSome = true ∧ st.subFail = true ∧ eff (modeOf td) sub st = .skip) ∨
    ((!td && sub.isSome && st.subFail) = false ∧ eff (modeOf td) sub st ≠ .skip) := by
  cases td <;> cases sub <;> cases h : st.subFail <;> simp [eff, modeOf, h]

mutual
/-- Refinement: the executor's traversal (`_execute_node` with its `in_teardown` flag, the mutable
    subtest record and `skip_teardown`) computes exactly the reading of the document by mode
    (`Spec.node`: run / skip / teardown). Same records, same call log, same return value. -/
theorem c02_refines_document (cfg : Cfg) (n : Node) (sub : Option Nat) (td : Bool) (st : St) :
    exec cfg n sub td st = Spec.node cfg n (modeOf td) sub st := by
  rcases mode_cases td sub st with ⟨rfl, hs, hf, he⟩ | ⟨hb, he⟩
  · have h := (c02_after_subtest_failure_everything_is_skipped cfg n sub st hs hf).1
    cases n <;> simp only [Spec.node, if_pos he, h, skipNode]
  · cases n with
    | phase p => simp only [exec, execPhaseNode, hb, Spec.node, if_neg he, Bool.false_eq_true, if_false]
    | checkpoint c => simp only [exec, execCheckpoint, hb, Spec.node, if_neg he, Bool.false_eq_true, if_false]
    | seq ns => rw [exec_seq, Spec.node, if_neg he]; exact execL_refines cfg td ns sub st
    | branch id c ns => simp only [exec_branch, hb, Spec.node, if_neg he, execL_refines cfg td ns sub st, Bool.false_eq_true, if_false]
    | subtest name ns => simp only [exec_subtest, Spec.node, if_neg he, execL_refines cfg td ns (some name)]
    | group s m t =>
      simp only [exec_group, Spec.node, if_neg he, execL_refines cfg td s sub st, hb, Bool.false_or]
      split
      · rfl
      · rcases mode_cases td sub (Spec.seq cfg s (modeOf td) sub st).1 with ⟨rfl, hs, hf, he1⟩ | ⟨hb1, he1⟩
        · have e2 := execL_skip cfg m sub _ hs hf
          have e3 := execL_skip cfg t sub _ hs e2.2
          simp [if_pos he1, hs, hf, e2.1, e3.1, Ret.max]
        · simp only [if_neg he1, hb1, Bool.not_false, execL_refines cfg td m sub, execL_refines cfg true t sub]; rfl
theorem execL_refines (cfg : Cfg) (td : Bool) (ns : List Node) (sub : Option Nat) (st : St) :
    execL cfg td ns sub st = Spec.seq cfg ns (modeOf td) sub st :=
  match ns with
  | [] => by rw [execL_nil, Spec.seq]
  | n :: ns => by
    rw [execL_cons, Spec.seq, c02_refines_document cfg n sub td st, execL_refines cfg td ns sub]
    cases td
    · simp only [modeOf, Bool.false_eq_true, if_false, Bool.not_false, Bool.true_and, reduceCtorEq]
      split
      · rfl
      · rename_i h
        have h : (Spec.node cfg n .run sub st).2 = .cont := by simpa using h
        rw [h, Ret.cont_max]
    · simp [modeOf]
end

theorem c02_refines_document_sequences (cfg : Cfg) (ns : List Node) (sub : Option Nat) (st : St) :
    execAb cfg ns sub st = Spec.seq cfg ns .run sub st ∧ execTd cfg ns sub st = Spec.seq cfg ns .td sub st :=
  ⟨execL_refines cfg false ns sub st, execL_refines cfg true ns sub st⟩

theorem skipNode_frame (n : Node) (sub : Option Nat) (st : St) :
    ∃ ps cs ss, skipNode n sub st = { st with phases := ps, checkpoints := cs, subtests := ss } := by
  induction n using Node.rec (motive_2 := fun ns => ∀ (sub : Option Nat) (st : St),
    ∃ ps cs ss, skipList ns sub st = { st with phases := ps, checkpoints := cs, subtests := ss }) generalizing sub st with
  | phase _ | checkpoint _ | branch _ _ _ _ | nil => exact ⟨_, _, _, rfl⟩
  | seq ns ih => exact ih sub st
  | subtest name ns ih =>
    obtain ⟨ps, cs, ss, e⟩ := ih (some name) st
    exact ⟨ps, cs, ss ++ [(name, .fail)], by rw [skipNode, e]⟩
  | group s m t ihs ihm iht =>
    obtain ⟨_, _, _, e1⟩ := ihs sub st
    obtain ⟨_, _, _, e2⟩ := ihm sub (skipList s sub st)
    obtain ⟨_, _, _, e3⟩ := iht sub (skipList m sub (skipList s sub st))
    exact ⟨_, _, _, by rw [skipNode, e3, e2, e1]⟩
  | cons n ns ihn ihns =>
    rename_i sub st
    obtain ⟨_, _, _, e1⟩ := ihn sub st
    obtain ⟨_, _, _, e2⟩ := ihns sub (skipNode n sub st)
    exact ⟨_, _, _, by rw [skipList, e2, e1]⟩

/-- skipping runs nothing: no body, no run_if evaluation, no diagnoser, no diagnosis, no terminal outcome -/
theorem c02_skipping_runs_nothing : ∀ (n : Node) (sub : Option Nat) (st : St),
    (skipNode n sub st).events = st.events ∧ (skipNode n sub st).bodyCalls = st.bodyCalls ∧
    (skipNode n sub st).runIfCalls = st.runIfCalls ∧ (skipNode n sub st).store = st.store ∧
    (skipNode n sub st).last = st.last ∧ (skipNode n sub st).branches = st.branches := by
  intro n sub st
  obtain ⟨_, _, _, e⟩ := skipNode_frame n sub st
  rw [e]; exact ⟨rfl, rfl, rfl, rfl, rfl, rfl⟩

/-- A sequence stops at its first terminal node: nothing after it is executed. -/
theorem c02_sequence_stops_at_first_terminal (cfg : Cfg) (sub : Option Nat) :
    ∀ (pre : List Node) (n : Node) (post : List Node) (st st1 : St),
      execAb cfg pre sub st = (st1, .cont) → (exec cfg n sub false st1).2 = .term →
      execAb cfg (pre ++ n :: post) sub st = exec cfg n sub false st1
  | pre, n, post, st, st1, h1, h2 => by simp [execAb_append, h1, execAb, h2]

/-- FAIL_SUBTEST never escapes its subtest: whatever happens inside, the enclosing subtest's state is
    what it was, so the nodes after the subtest run normally; the subtest node is terminal only if a
    node inside it was. -/
theorem c02_fail_subtest_never_escapes (cfg : Cfg) (name : Nat) (ns : List Node) (sub : Option Nat) (td : Bool) (st : St) :
    (exec cfg (.subtest name ns) sub td st).1.subFail = st.subFail ∧
    ((exec cfg (.subtest name ns) sub td st).2 = .term →
      (if td then execTd cfg ns (some name) { st with subFail := sub.isSome && st.subFail }
       else execAb cfg ns (some name) { st with subFail := sub.isSome && st.subFail }).2 = .term) := by
  constructor
  · simp [exec]
  · intro h
    simpa [exec] using h

/-- the subtest record: STOP if a node inside was terminal, else FAIL if the subtest failed, else PASS;
    exactly one record per subtest node -/
theorem c02_subtest_record (cfg : Cfg) (name : Nat) (ns : List Node) (sub : Option Nat) (td : Bool) (st : St) :
    let inner := if td then execTd cfg ns (some name) { st with subFail := sub.isSome && st.subFail }
                 else execAb cfg ns (some name) { st with subFail := sub.isSome && st.subFail }
    (exec cfg (.subtest name ns) sub td st).1.subtests =
      inner.1.subtests ++ [(name, if inner.2 == .term then .stop else if inner.1.subFail then .fail else .pass)] := by
  simp only [exec]

/-- the four condition kinds are the truth tables ALL / ANY / NOT_ANY / NOT_ALL over "the diagnosis
    result has been produced by an earlier node" -/
theorem c02_condition_truth_tables (rs store : List Nat) :
    condCheck ⟨.all, rs⟩ store = rs.all (store.contains ·) ∧
    condCheck ⟨.any, rs⟩ store = rs.any (store.contains ·) ∧
    condCheck ⟨.notAny, rs⟩ store = !rs.any (store.contains ·) ∧
    condCheck ⟨.notAll, rs⟩ store = !rs.all (store.contains ·) := by
  simp [condCheck, List.all_map, List.any_map, Function.comp_def]

/-- A branch (not skipped) runs its sequence iff its condition holds on the diagnosis store, and the
    evaluation is recorded exactly once, with `branch_taken` = the condition. -/
theorem c02_branch_iff_condition (cfg : Cfg) (id : Nat) (c : DiagCond) (ns : List Node) (sub : Option Nat) (td : Bool) (st : St)
    (hrun : (!td && sub.isSome && st.subFail) = false) :
    (condCheck c st.store = false →
        exec cfg (.branch id c ns) sub td st = ({ st with branches := st.branches ++ [(id, false)] }, .cont)) ∧
    (condCheck c st.store = true →
        let inner := if td then execTd cfg ns sub st else execAb cfg ns sub st
        exec cfg (.branch id c ns) sub td st = ({ inner.1 with branches := inner.1.branches ++ [(id, true)] }, inner.2)) := by
  constructor <;> intro h <;> simp [exec, hrun, h]

/-- what "the condition of the checkpoint holds" means -/
def Triggered (c : Ckpt) (sub : Option Nat) (st : St) : Prop :=
  match c.kind with
  | .diag dc => condCheck dc st.store = true
  | .last => ∃ r, st.phases.getLast? = some r ∧ r.outcome = .fail
  | .allPrev => ∃ r ∈ st.phases, r.outcome = .fail
  | .subtestPrev => match sub with
    | some name => ∃ r ∈ st.phases, r.subtest = some name ∧ r.outcome = .fail
    | none => ∃ r ∈ st.phases, r.outcome = .fail

/-- A checkpoint (not skipped) yields its action iff its condition holds — LAST / ALL / SUBTEST previous
    phase failed, or the diagnosis condition — and each evaluation is recorded exactly once. -/
theorem c02_checkpoint_iff_condition (c : Ckpt) (sub : Option Nat) (st : St) (hne : st.phases ≠ []) :
    (checkpointResult c sub st = .pr .cont ↔ ¬ Triggered c sub st) ∧
    (evalCheckpoint c sub st).1.checkpoints = st.checkpoints ++ [(c.id, sub, checkpointResult c sub st)] := by
  refine ⟨?_, by rw [evalCheckpoint_eq, finishNode_fst]⟩
  have hne' : st.phases.isEmpty = false := by simpa using hne
  have hr := List.getLast?_eq_some_getLast hne
  unfold checkpointResult
  extract_lets triggered
  -- there are records, so the condition can be evaluated; the result is CONTINUE exactly when it is false
  have hT : triggered = some false ↔ ¬ Triggered c sub st := by
    unfold triggered Triggered
    cases c.kind with
    | subtestPrev => cases sub <;> simp [hne']
    | _ => simp [hne', hr]
  rw [← hT]
  rcases triggered with _ | _ | _ <;> simp
  (repeat' split) <;> simp

/-- in a teardown every node is executed, whatever the earlier ones returned -/
theorem c02_teardown_sequence_runs_every_node (cfg : Cfg) (n : Node) (ns : List Node) (sub : Option Nat) (st : St) :
    execTd cfg (n :: ns) sub st =
      ((execTd cfg ns sub (exec cfg n sub true st).1).1, (exec cfg n sub true st).2.max (execTd cfg ns sub (exec cfg n sub true st).1).2) := by
  simp [execTd]

/-- non-vacuity and a worked example of the rules: subtest [FAIL_SUBTEST, phase, branch, group] then a phase -/
example :
    let ok : Nat → Node := fun i => .phase { id := i, beh := fun _ => { raw := .ret .cont } }
    let st := (execAb {} [.subtest 9 [.phase { id := 1, beh := fun _ => { raw := .ret .failSub } }, ok 2,
                  .branch 5 ⟨.notAny, []⟩ [ok 3], .group [ok 4] [ok 6] [ok 7]], ok 8] none {}).1
    st.phases.map (fun r => (r.id, r.outcome)) =
      [(1, .fail), (2, .skip), (4, .skip), (6, .skip), (7, .skip), (8, .pass)] ∧
    st.branches = [] ∧ st.subtests = [(9, .fail)] ∧ st.bodyCalls = [1, 8] := by decide +kernel

end OpenHTF.Exec
