import OpenHTF.Model.AdbConn
/-
C15 — ADB connection lifecycle: handshake, stream ids, open/close. For every device reply sequence,
every number of keys, every id-limit and every set of live ids.
-/
namespace OpenHTF.AdbConn

theorem connectedOf_eq {r : Reply} {m : Nat} (h : connectedOf r = .connected m) : r = .cnxn m true := by
  cases r with
  | cnxn m' ok => cases ok <;> simp [connectedOf] at h; rw [h]
  | _ => cases h

theorem readUntilE_mem {w : Bool} {exp : Option Nat} {rs : List Reply} {r : Reply} {rest : List Reply} {exp' : Option Nat}
    (h : readUntilE w exp rs = .got r rest exp') :
    r ∈ rs ∧ ∀ x ∈ rest, x ∈ rs := by
  fun_induction readUntilE w exp rs <;> simp_all

/-- what holds of the key loop: connected only through a CNXN of the script, signatures only of TOKEN
    challenges of the script, keys used in order (the first one tried here being key `k0`), the public key of the
    first key at most once and only after all keys were tried. Written with `zipIdx k0` and `… + k0` so that for
    `k0 = 0` it is, by unfolding alone, the statement of `c15_handshake`. -/
def LoopOk (nkeys : Nat) (rs0 : List Reply) (k0 : Nat) (sent0 : List Sent) (out : List Sent × ConnResult) : Prop :=
  (∀ m, out.2 = .connected m → Reply.cnxn m true ∈ rs0) ∧
  ∃ sigs : List Sent, ∃ pk : List Sent,
    out.1 = sent0 ++ sigs ++ pk ∧
    (∃ toks : List Nat, sigs = (toks.zipIdx k0).map (fun (t, i) => Sent.signature i t) ∧ ∀ t ∈ toks, Reply.authToken t ∈ rs0) ∧
    (pk = [] ∨ (pk = [.publicKey 0] ∧ sigs.length + k0 = nkeys))

section
variable {nkeys : Nat} {rs0 : List Reply} {k : Nat} {sent : List Sent}

theorem LoopOk.stop {res : ConnResult} (h : ∀ m, res = .connected m → Reply.cnxn m true ∈ rs0) :
    LoopOk nkeys rs0 k sent (sent, res) :=
  ⟨h, [], [], by simp, ⟨[], rfl, nofun⟩, .inl rfl⟩

theorem LoopOk.publicKey {res : ConnResult} (hk : k ≤ nkeys) (hk' : ¬ k < nkeys)
    (h : ∀ m, res = .connected m → Reply.cnxn m true ∈ rs0) : LoopOk nkeys rs0 k sent (sent ++ [.publicKey 0], res) :=
  ⟨h, [], [.publicKey 0], by simp, ⟨[], rfl, nofun⟩, .inr ⟨rfl, by simp only [List.length_nil]; omega⟩⟩

theorem LoopOk.signature {t : Nat} {out : List Sent × ConnResult} (ht : Reply.authToken t ∈ rs0)
    (h : LoopOk nkeys rs0 (k + 1) (sent ++ [.signature k t]) out) : LoopOk nkeys rs0 k sent out := by
  obtain ⟨h1, sigs, pk, he, ⟨toks, hs, htoks⟩, hp⟩ := h
  refine ⟨h1, .signature k t :: sigs, pk, by rw [he]; simp, ⟨t :: toks, by rw [hs]; rfl, ?_⟩, ?_⟩
  · exact List.forall_mem_cons.2 ⟨ht, htoks⟩
  · exact hp.imp_right fun ⟨hp, hl⟩ => ⟨hp, by rw [List.length_cons, ← hl]; omega⟩

end

theorem keyLoopE_ok (nkeys : Nat) (rs0 : List Reply) (k : Nat) (msg : Reply) (rs : List Reply) (exp : Option Nat)
    (sent : List Sent) (hk : k ≤ nkeys) (hmsg : msg ∈ rs0) (hrs : ∀ x ∈ rs, x ∈ rs0) :
    LoopOk nkeys rs0 k sent (keyLoopE nkeys k msg rs exp sent) := by
  fun_induction keyLoopE nkeys k msg rs exp sent with
  -- a key is left and `msg` is a TOKEN challenge: it is signed; then no reply, …
  | case1 | case2 => exact .signature hmsg (.stop nofun)
  -- … or CNXN, …
  | case3 k rs exp sent _ t _ m ok rest exp' hr =>
    exact .signature hmsg (.stop fun m' hc => connectedOf_eq hc ▸ hrs _ (readUntilE_mem hr).1)
  -- … or another AUTH message: next key
  | case4 k rs exp sent hlt t _ msg' rs' exp' _ hr ih =>
    have hm := readUntilE_mem hr
    exact .signature hmsg (ih hlt (hrs _ hm.1) fun x hx => hrs x (hm.2 x hx))
  -- `msg` is no TOKEN challenge
  | case5 => exact .stop nofun
  -- no key is left: the public key is offered; then no reply, or CNXN
  | case6 | case7 => exact .publicKey hk ‹_› nofun
  | case8 k msg rs exp sent hk' _ r rest exp' hr =>
    exact .publicKey hk hk' fun m' hc => connectedOf_eq hc ▸ hrs _ (readUntilE_mem hr).1

/-- the handshake, with any deadline -/
theorem connectE_ok (nkeys : Nat) (exp : Option Nat) (rs : List Reply) :
    LoopOk nkeys rs 0 [.cnxn] (connectE nkeys exp rs) := by
  unfold connectE
  split
  · exact .stop nofun
  · exact .stop nofun
  · rename_i hr
    exact .stop fun m' hc => connectedOf_eq hc ▸ (readUntilE_mem hr).1
  · rename_i hr
    have hm := readUntilE_mem hr
    split
    · exact .stop nofun
    · exact keyLoopE_ok nkeys rs 0 _ _ _ _ (Nat.zero_le _) hm.1 hm.2

/-- C15 with a deadline: whenever the handshake time-out expires — in the middle of unrelated packets, between
    AUTH rounds, during the public-key wait — `connect` returns a connection only on a well-formed CNXN the
    device really sent (with that CNXN's maxdata); unrelated traffic at the deadline is never taken for the
    awaited reply -/
theorem c15_deadline_never_connects_without_cnxn (nkeys : Nat) (exp : Option Nat) (rs : List Reply) (m : Nat)
    (hc : (connectE nkeys exp rs).2 = .connected m) : Reply.cnxn m true ∈ rs :=
  (connectE_ok nkeys exp rs).1 m hc

theorem readUntilE_none (w : Bool) (rs : List Reply) :
    readUntilE w none rs = (match readUntil w rs with | none => RU.exhausted | some (r, rest) => RU.got r rest none) := by
  fun_induction readUntil w rs <;> simp_all [readUntilE, tick, expired]

theorem keyLoopE_none (nkeys k : Nat) (msg : Reply) (rs : List Reply) (sent : List Sent) :
    keyLoopE nkeys k msg rs none sent = keyLoop nkeys k msg rs sent := by
  fun_induction keyLoop nkeys k msg rs sent <;> unfold keyLoopE <;>
    simp +zetaDelta only [*, readUntilE_none, dite_true, dite_false, ite_self]

/-- a handshake whose time-out never expires is the handshake of `c15_handshake` -/
theorem connectE_never_expiring (nkeys : Nat) (rs : List Reply) : connectE nkeys none rs = connect nkeys rs := by
  unfold connectE connect
  rw [readUntilE_none]
  cases readUntil true rs with
  | none => rfl
  | some p =>
    obtain ⟨r, rest⟩ := p
    cases r <;> simp only [keyLoopE_none]

/-- C15 handshake: connect() returns a connection only after a CNXN of the device (taking maxdata from
    it, with a well-formed banner); it signs only TOKEN challenges the device sent; it tries the keys in
    order; it offers the first public key at most once and only after every key was tried; everything
    else ends in an auth, protocol or timeout error. -/
theorem c15_handshake (nkeys : Nat) (rs : List Reply) :
    let out := connect nkeys rs
    (∀ m, out.2 = .connected m → Reply.cnxn m true ∈ rs) ∧
    ∃ sigs pk, out.1 = [.cnxn] ++ sigs ++ pk ∧
      (∃ toks : List Nat, sigs = toks.zipIdx.map (fun (t, i) => Sent.signature i t) ∧ ∀ t ∈ toks, Reply.authToken t ∈ rs) ∧
      (pk = [] ∨ (pk = [.publicKey 0] ∧ sigs.length = nkeys)) :=
  connectE_never_expiring nkeys rs ▸ connectE_ok nkeys none rs

/-- unrelated packets before CNXN are ignored -/
theorem c15_noise_ignored_before_cnxn (nkeys : Nat) (rs : List Reply) : connect nkeys (.noise :: rs) = connect nkeys rs := by
  simp [connect, readUntil]

/-- unrelated packets until the deadline: a time-out error, not a connection and not a signature -/
example : connectE 2 (some 3) [.noise, .noise, .noise, .cnxn 4096 true] = ([.cnxn], .timeoutError) := by decide
/-- the awaited reply read while the time-out expires still counts -/
example : connectE 2 (some 2) [.noise, .cnxn 4096 true] = ([.cnxn], .connected 4096) := by decide
/-- expiry during the public-key wait -/
example : connectE 1 (some 3) [.authToken 7, .authToken 8, .noise, .cnxn 4096 true] =
    ([.cnxn, .signature 0 7, .publicKey 0], .timeoutError) := by
  simp [connectE, readUntilE, keyLoopE, tick, expired]

/-- every candidate id is non-zero and below the id limit (the candidates are `start … limit - 1`, then `1 … start - 1`) -/
theorem mem_candidates {limit last i : Nat} (hl : 0 < limit) (h : i ∈ candidates limit last) : 1 ≤ i ∧ i < limit := by
  have hs : last % limit + 1 ≤ limit := Nat.mod_lt _ hl
  rcases List.mem_append.1 (List.mem_of_mem_take h) with h | h <;> rw [List.mem_range'_1] at h
  · exact ⟨Nat.le_trans (Nat.le_add_left ..) h.1, Nat.add_sub_cancel' hs ▸ h.2⟩
  · exact ⟨h.1, Nat.lt_of_lt_of_le (Nat.add_sub_cancel' (Nat.le_add_left ..) ▸ h.2) hs⟩

/-- C15 ids: an allocated local id is not in use, is non-zero and is below the id limit — for every
    limit, every `_last_id_used` and every set of live ids (wrap-around included) -/
theorem c15_ids_distinct_nonzero_below_limit (limit last : Nat) (live : List Nat) (i : Nat) (hl : 0 < limit)
    (h : allocId limit last live = some i) : i ∉ live ∧ 1 ≤ i ∧ i < limit :=
  ⟨by simpa using List.find?_some h, mem_candidates hl (List.mem_of_find?_eq_some h)⟩

/-- closing: the id is released and exactly one CLSE (with both ids) is sent when the remote id is
    known; closing again does nothing -/
theorem c15_exactly_one_clse_and_id_released (c : Conn) (l : Nat) (h : c.map.contains l = true) :
    let c1 := closeTransport c l
    c1.map.contains l = false ∧
    (∀ s, getS { c with map := c.map.filter (· != l) } l = some s → s.remote ≠ 0 → c1.sent = c.sent ++ [.clse l s.remote]) ∧
    closeTransport c1 l = c1 := by
  intro c1
  have hmap : c1.map = c.map.filter (· != l) := by
    simp only [c1, closeTransport, h, if_true]
    split
    · split <;> rfl
    · rfl
  have hnot : c1.map.contains l = false := by simp [hmap, List.contains_eq_mem, List.mem_filter]
  refine ⟨hnot, fun s hs hr => ?_, by rw [closeTransport, hnot]; rfl⟩
  have hb : (s.remote != 0) = true := by simpa using hr
  simp only [c1, closeTransport, h, if_true, hs, hb]

/-- a packet type that is illegal mid-session is a protocol error for whoever reads it -/
theorem c15_illegal_midsession_raises (l : Nat) (fuel : Nat) (c : Conn) (s : Stream) (dev : List DMsg)
    (hs : getS c l = some s) (hm : c.map.contains l = true) (hq : s.queue = []) (hd : c.dev = .illegal :: dev) :
    (readForStream l (fuel + 1) c).2 = .error .protocol := by
  have hm' : l ∈ c.map := by simpa using hm
  simp [readForStream, hs, hm', hq, hd, localOf]

/-- a stream is usable only after the device's OKAY; a CLSE reply to OPEN yields no stream -/
theorem c15_open_result (s : Stream) (m : DMsg) (hp : s.state = .pending) (hr : s.remote = 0) (he : s.expectingOkay = true) :
    (∀ s', handleMessage s m false = .ok s' → s'.state = .open → ∃ r lo, m = .okay r lo) ∧
    (∀ r lo, m = .clse r lo → ∃ s', handleMessage s m false = .ok s' ∧ s'.state = .closed) := by
  constructor
  · intro s' h hs
    cases m with
    | okay r lo => exact ⟨r, lo, rfl⟩
    | wrte r lo d => simp [handleMessage] at h
    | clse r lo => simp [handleMessage] at h; rw [← h] at hs; simp at hs
    | illegal => simp [handleMessage] at h
  · intro r lo hm; subst hm; exact ⟨_, rfl, rfl⟩

/-- drain, then closed: data already buffered for a stream is handed out by the next read whatever has happened to the
    stream since (local close, the device's CLSE, id released): `read(0)` gives all of it, `read(n)` its first n bytes -/
theorem c15_buffered_data_is_handed_out_first (c : Conn) (l len fuel : Nat) (s : Stream) (h : getS c l = some s)
    (hb : s.buf ≠ []) (hl : len ≤ s.buf.length) :
    (readStream l len (fuel + 1) c).2 = .ok (if len = 0 then s.buf else s.buf.take len) := by
  have hne := List.isEmpty_eq_false_iff.2 hb
  simp only [readStream, h, hne, Bool.not_false, Bool.true_and, decide_eq_true_eq, hl, if_true]
  split <;> rfl

/-- … and what a `read(n)` leaves over stays buffered -/
theorem c15_read_leaves_the_rest_buffered (c : Conn) (l len fuel : Nat) (s : Stream) (h : getS c l = some s)
    (hb : s.buf ≠ []) (hl : len ≤ s.buf.length) (hpos : 0 < len) :
    (readStream l len (fuel + 1) c).1 = putS c { s with buf := s.buf.drop len } := by
  have hne := List.isEmpty_eq_false_iff.2 hb
  have h0 : len ≠ 0 := Nat.ne_of_gt hpos
  simp [readStream, h, hne, hl, h0]

theorem getS_putS (c : Conn) (t : Stream) (l : Nat) :
    getS (putS c t) l = (getS c l).map fun x => if x.local_ == t.local_ then t else x := by
  simp only [getS, putS, List.find?_map]
  congr 2
  funext x
  simp only [Function.comp]
  split <;> simp_all

theorem getS_closeTransport (c : Conn) (l l' : Nat) : getS (closeTransport c l) l' = getS c l' := by
  unfold closeTransport
  split
  · simp only [getS]
    split
    · split <;> rfl
    · rfl
  · rfl

/-- closing a stream locally does not touch its read buffer -/
theorem c15_close_keeps_buffer (c : Conn) (l : Nat) (s : Stream) (h : getS c l = some s) :
    ∃ s', getS (closeStream c l) l = some s' ∧ s'.buf = s.buf := by
  unfold closeStream
  rw [h]
  simp only
  split
  · exact ⟨s, h, rfl⟩
  · exact ⟨{ s with state := .closed }, by simp [getS_closeTransport, getS_putS, h], rfl⟩

/-- non-vacuity: two keys, both rejected, public key offered once, then accepted -/
example : connect 2 [.noise, .authToken 7, .authToken 8, .authToken 9, .noise, .cnxn 4096 true] =
    ([.cnxn, .signature 0 7, .signature 1 8, .publicKey 0], .connected 4096) := by
  simp [connect, readUntil, keyLoop, connectedOf]

end OpenHTF.AdbConn
