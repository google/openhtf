import OpenHTF.Model.Render
import OpenHTF.Model.PendingSet
import OpenHTF.Proofs.Lemmas.Lts
/-
C10 — serialized (base-type) view equals the in-memory record: conversion closure and the
measurement caches, for every value of the family and every operation history (namespace `Render`);
and the live view of a running phase under a concurrent writer: the set of pending measurements (`PendingSet`).
-/
namespace OpenHTF.Render

/-- One induction along the conversion: a rendering is of base types only, free of non-finite leaves under `json_safe`,
    and unchanged by rendering again. Cases of `convert.induct`: 1-7 the leaves (4, 5: a non-finite float with and
    without `json_safe`), 8-10 list, tuple, dict, 11-12 `convertList`, 13-14 `convertKvs`. -/
theorem convert_spec (js : Bool) (v : PyVal) :
    isBase (convert js v) = true ∧ (js = true → finite (convert js v) = true) ∧ convert js (convert js v) = convert js v := by
  induction js, v using convert.induct
    (motive_2 := fun kvs => allBaseKvs (convertKvs kvs) = true ∧ allFiniteKvs (convertKvs kvs) = true ∧
      convertKvs (convertKvs kvs) = convertKvs kvs)
    (motive_3 := fun js l => allBase (convertList js l) = true ∧ (js = true → allFinite (convertList js l) = true) ∧
      convertList js (convertList js l) = convertList js l) with
  | case5 js f h =>
    cases Bool.eq_false_iff.mpr h
    exact ⟨rfl, nofun, rfl⟩
  | case8 _ _ ih => exact ⟨ih.1, ih.2.1, congrArg PyVal.list ih.2.2⟩
  | case9 _ _ ih => exact ⟨ih.1, ih.2.1, congrArg PyVal.tuple ih.2.2⟩
  | case10 _ _ ih => exact ⟨ih.1, fun _ => ih.2.1, congrArg PyVal.dict ih.2.2⟩
  | case12 _ _ _ ih1 ih2 =>
    simp only [convertList, allBase, allFinite, ih1.1, ih2.1, ih1.2.2, ih2.2.2, Bool.and_self, true_and, and_true]
    exact fun h => by rw [ih1.2.1 h, ih2.2.1 h]; rfl
  | case14 _ _ _ ih1 ih2 =>
    simp only [convertKvs, allBaseKvs, allFiniteKvs, ih1.1, ih2.1, ih1.2.1 rfl, ih2.2.1, ih1.2.2, ih2.2.2, Bool.and_self,
      true_and]
  | case13 => exact ⟨rfl, rfl, rfl⟩
  | _ => exact ⟨rfl, fun _ => rfl, rfl⟩

/-- the conversion produces only base types -/
theorem c10_convert_base_types_closed (js : Bool) : ∀ (v : PyVal), isBase (convert js v) = true :=
  fun v => (convert_spec js v).1

/-- with json_safe no NaN / Infinity leaf survives, at any depth (lists, tuples, dicts) -/
theorem c10_json_safe_no_nonfinite_leaves : ∀ (v : PyVal), finite (convert true v) = true :=
  fun v => (convert_spec true v).2.1 rfl

/-- the rendering is a fixed point of the conversion: rendering a rendering changes nothing -/
theorem c10_convert_idempotent (js : Bool) : ∀ (v : PyVal), convert js (convert js v) = convert js v :=
  fun v => (convert_spec js v).2.2

/-- the caches agree with the in-memory objects -/
def Coh (m : MeasState) : Prop :=
  m.cachedOutcome = m.outcome ∧ m.cachedValue = m.stored.map (convert true) ∧
  (∀ rows, m.cachedRows = some rows → rows = freshRows m.entries)

theorem upsert_notfound (eqc : List PyVal → List PyVal → Bool) (c : List PyVal) (v : PyVal) :
    ∀ (l : List (List PyVal × PyVal)), (upsert c v eqc l).2 = false → (upsert c v eqc l).1 = l ++ [(c, v)]
  | [], _ => rfl
  | (c', v') :: rest, h => by
    unfold upsert at h ⊢
    cases he : eqc c' c <;> simp only [he, if_true] at h ⊢
    · exact congrArg _ (upsert_notfound eqc c v rest h)
    · cases h

theorem basetypeValue_eq (m : MeasState) (h : Coh m) : basetypeValue m =
    ((renderFresh m).2, { m with cachedRows := if m.dimensioned then some (freshRows m.entries) else m.cachedRows }) := by
  obtain ⟨_, h2, h3⟩ := h
  unfold basetypeValue renderFresh
  split
  · split
    · next rows hr =>
      cases h3 rows hr
      rw [← hr]
    · rfl
  · refine Prod.ext ?_ rfl
    rw [h2]
    cases m.stored <;> rfl

theorem coh_step (eqc : List PyVal → List PyVal → Bool) (m : MeasState) (o : Op) (h : Coh m) : Coh (step eqc m o) := by
  have ⟨h1, h2, h3⟩ := h
  cases o with
  | set v oc => exact ⟨rfl, rfl, h3⟩
  | validate oc => exact ⟨rfl, h2, h3⟩
  | setDim c v =>
    refine ⟨rfl, h2, fun rows hr => ?_⟩
    simp only [step] at hr ⊢
    -- rows stay cached only if the coordinate is new and they were cached before
    cases hf : (upsert c v eqc m.entries).2
    · cases hc : m.cachedRows with
      | none => simp [hf, hc] at hr
      | some old =>
        simp only [hf, hc, Bool.false_eq_true, if_false, Option.map_some, Option.some.injEq] at hr
        simp [← hr, h3 old hc, upsert_notfound eqc c v m.entries hf, freshRows]
    · simp [hf] at hr
  | read =>
    have : Coh { m with cachedRows := if m.dimensioned then some (freshRows m.entries) else m.cachedRows } :=
      ⟨h1, h2, by
        split
        · exact fun _ hr => (Option.some.inj hr).symm
        · exact h3⟩
    simp only [step, basetypeValue_eq m h]
    split <;> exact this

/-- Cache coherence: after ANY history of assignments, overrides, per-coordinate overrides, validations
    and reads of the live view, reading the base-type view gives exactly the from-scratch rendering of
    the in-memory measurement (value and outcome): never stale, pre-transform or missing data. -/
theorem c10_cache_coherent (eqc : List PyVal → List PyVal → Bool) (dimensioned : Bool) (ops : List Op) :
    let m := (ops ++ [Op.read]).foldl (step eqc) { dimensioned := dimensioned }
    renderCached m = renderFresh m ∨ ((renderFresh m).2 = none ∧ (renderCached m).1 = (renderFresh m).1) := by
  have hm : Coh (ops.foldl (step eqc) { dimensioned := dimensioned }) :=
    ops.foldlRecOn _ ⟨rfl, rfl, fun _ hr => (Option.some.inj hr).symm⟩ fun m h o _ => coh_step eqc m o h
  simp only [List.foldl_append, List.foldl_cons, List.foldl_nil]
  generalize ops.foldl (step eqc) { dimensioned := dimensioned } = s at hm
  -- the last read stores the fresh value, if there is one; the row cache it may fill is not rendered
  simp only [step, basetypeValue_eq s hm]
  cases hv : (renderFresh s).2
  · exact .inr ⟨hv, hm.1⟩
  · exact .inl (Prod.ext hm.1 hv.symm)

/-- non-vacuity: the fixed defect — a transformed dimensioned value, then an override, then a read -/
example :
    let eqc : List PyVal → List PyVal → Bool := fun a b => match a, b with | [.int x], [.int y] => x == y | _, _ => false
    let m := ([Op.setDim [.int 1] (.int 100), .read, .setDim [.int 2] (.nonfinite .nan), .setDim [.int 1] (.int 7), .read] : List Op).foldl
      (step eqc) { dimensioned := true }
    (renderCached m).1 = "PARTIALLY_SET" ∧ (renderCached m).2.isSome = true := by decide

end OpenHTF.Render

namespace OpenHTF.PendingSet

/-- every measurement whose cached rendering is out of date is accounted for: it is in the pending set, or in what the
    watcher still has to refresh, or the phase thread is just about to mark it; and the watcher holds a list only while
    it renders -/
structure Inv (s : S) : Prop where
  accounted : ∀ m, s.cached m = s.actual m ∨ m ∈ s.pend ∨ m ∈ s.wlist ∨ s.ppc = some m
  idleEmpty : s.wpc ≠ .rendering → s.wlist = []

theorem inv_init : Inv {} := ⟨fun _ => Or.inl rfl, fun _ => rfl⟩

theorem inv_step (s s' : S) (a : Act) (h : Inv s) (hs : step s a = some s') : Inv s' := by
  obtain ⟨h1, h2⟩ := h
  cases a <;> simp only [step, Option.ite_none_right_eq_some, Option.some.injEq] at hs
  case store m v =>
    obtain ⟨hc, rfl⟩ := hs
    exact ⟨fun x => by have := h1 x; simp only [updN]; grind, h2⟩
  case mark =>
    split at hs <;> cases hs
    exact ⟨fun x => by have := h1 x; grind, h2⟩
  case wStart =>
    obtain ⟨hc, rfl⟩ := hs
    exact ⟨h1, fun _ => h2 (by simp [hc])⟩
  case wSwap =>
    obtain ⟨hc, rfl⟩ := hs
    exact ⟨fun x => by have := h1 x; grind, fun hn => absurd rfl hn⟩
  case wRender =>
    obtain ⟨hc, hs⟩ := hs
    split at hs <;> cases hs
    exact ⟨fun x => by have := h1 x; simp only [updN]; grind, fun hn => absurd hc hn⟩
  case wDone =>
    obtain ⟨hc, rfl⟩ := hs
    exact ⟨h1, fun _ => hc.2⟩

theorem reach_inv {as : List Act} {s : S} (hr : run {} as = some s) : Inv s :=
  Lts.run_induction step run (fun _ => rfl) (fun s a as => by rw [run]; cases step s a <;> rfl) Inv inv_step as {} s
    inv_init hr

/-- C10 (live view under concurrent rendering): under EVERY interleaving of the phase thread's assignments with a
    watcher thread's renderings, no update is ever lost: a measurement whose cached rendering is stale is still pending,
    still on the watcher's list, or about to be marked -/
theorem c10_live_view_never_loses_an_update (as : List Act) (s : S) (hr : run {} as = some s) (m : Nat) :
    s.cached m = s.actual m ∨ m ∈ s.pend ∨ m ∈ s.wlist ∨ s.ppc = some m :=
  (reach_inv hr).accounted m

/-- … so that whenever things are quiet (nothing pending, no rendering in progress, no assignment half done) the live
    view shows the current value of every measurement -/
theorem c10_quiescent_live_view_is_current (as : List Act) (s : S) (hr : run {} as = some s)
    (hq : s.pend = [] ∧ s.wlist = [] ∧ s.ppc = none) (m : Nat) : s.cached m = s.actual m := by
  rcases c10_live_view_never_loses_an_update as s hr m with a | a | a | a
  · exact a
  · rw [hq.1] at a; cases a
  · rw [hq.2.1] at a; cases a
  · rw [hq.2.2] at a; cases a

/-- … and a watcher can always finish: one more full rendering pass after the last assignment empties everything -/
theorem c10_render_pass_refreshes (s : S) (m : Nat) (rest : List Nat) (hw : s.wpc = .rendering) (hl : s.wlist = m :: rest) :
    step s .wRender = some { s with cached := updN s.cached m (s.actual m), wlist := rest } ∧
      updN s.cached m (s.actual m) m = s.actual m := by
  constructor
  · simp [step, hw, hl]
  · simp [updN]

/-- iterating a snapshot and clearing afterwards is NOT safe: an assignment made while the watcher renders is wiped from
    the pending set without being refreshed, and the quiet state shows a stale value -/
theorem clear_after_iterate_loses_an_update :
    ∃ s, crun {} [.store 1 5, .mark, .wSnap, .store 2 7, .mark, .wRender, .wClear] = some s ∧
      s.pend = [] ∧ s.wlist = [] ∧ s.ppc = none ∧ s.cached 2 ≠ s.actual 2 := by
  refine ⟨_, rfl, ?_⟩
  decide

example : ∃ s, run {} [.store 1 5, .mark, .wStart, .store 2 7, .mark, .wSwap, .wRender, .wRender, .wDone] = some s ∧
    s.cached 1 = 5 ∧ s.cached 2 = 7 := by
  refine ⟨_, rfl, ?_⟩
  decide

end OpenHTF.PendingSet
