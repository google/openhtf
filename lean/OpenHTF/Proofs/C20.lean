import OpenHTF.Model.Conf
/-
C20 — property theorems about the configuration model. Quantified over every state / every
operation sequence (incl. nested save_and_restore), every key universe and every `KeyInfo`.
-/
namespace OpenHTF.Conf

/-- Reading a declared key yields flag, else loaded, else default, else unset. -/
theorem c20_getitem_is_lookup (s : St) (k : Key) (d : Option Val) (hd : s.decl k = some d) :
    getitem s k = Spec.lookup (s.flags k) (s.loaded k) d := by
  unfold getitem
  rw [hd]
  cases s.flags k <;> cases s.loaded k <;> rfl

/-- `load_from_dict` skips a pair for `k`: undeclared and not allowed, or loaded already and `_override` off -/
def skips (s : St) (o a : Bool) (k : Key) : Bool := (s.decl k).isNone && !a || (s.loaded k).isSome && !o

theorem loadOne_eq (s : St) (o a : Bool) (kv : Key × Val) :
    loadOne s o a kv = if skips s o a kv.1 then s else { s with loaded := setK s.loaded kv.1 kv.2 } := by
  unfold loadOne skips
  cases (s.decl kv.1).isNone && !a <;> rfl

theorem loadDict_cons (s : St) (kv : Key × Val) (kvs : List (Key × Val)) (o a : Bool) :
    loadDict s (kv :: kvs) o a = loadDict (loadOne s o a kv) kvs o a := rfl

theorem loadDict_frame (kvs : List (Key × Val)) (s : St) (o a : Bool) :
    ∃ l, loadDict s kvs o a = { s with loaded := l } := by
  induction kvs generalizing s with
  | nil => exact ⟨_, rfl⟩
  | cons kv kvs ih =>
    rw [loadDict_cons, loadOne_eq]
    split
    · exact ih s
    · exact ih { s with loaded := _ }

theorem loadOne_decl (s : St) (o a : Bool) (kv : Key × Val) : (loadOne s o a kv).decl = s.decl := by
  rw [loadOne_eq]; split <;> rfl
theorem loadDict_decl (kvs : List (Key × Val)) (s : St) (o a : Bool) : (loadDict s kvs o a).decl = s.decl := by
  obtain ⟨l, h⟩ := loadDict_frame kvs s o a; rw [h]
theorem loadDict_flags (kvs : List (Key × Val)) (s : St) (o a : Bool) : (loadDict s kvs o a).flags = s.flags := by
  obtain ⟨l, h⟩ := loadDict_frame kvs s o a; rw [h]
theorem loadDict_file (kvs : List (Key × Val)) (s : St) (o a : Bool) : (loadDict s kvs o a).file = s.file := by
  obtain ⟨l, h⟩ := loadDict_frame kvs s o a; rw [h]

/-- `reset` changes the loaded values only, and what it leaves there does not depend on what was there -/
theorem step_reset (ki : KeyInfo) (s : St) : (step ki s .reset).1 = { s with loaded :=
    match s.file with
    | none => fun _ => none
    | some kvs => (loadDict { s with loaded := fun _ => none } kvs true true).loaded } := by
  simp only [step]
  cases s.file with
  | none => rfl
  | some kvs =>
    obtain ⟨l, h⟩ := loadDict_frame kvs { s with loaded := fun _ => none, file := some kvs } true true
    simp only [h]

theorem flagFold_frame (kvs : List (Key × Val)) (s : St) : ∃ f, kvs.foldl flagOne s = { s with flags := f } := by
  induction kvs generalizing s with
  | nil => exact ⟨_, rfl⟩
  | cons kv kvs ih =>
    obtain ⟨f, h⟩ : ∃ f, flagOne s kv = { s with flags := f } :=
      ⟨(flagOne s kv).flags, by unfold flagOne; split <;> rfl⟩
    obtain ⟨f', h'⟩ := ih { s with flags := f }
    exact ⟨f', by rw [List.foldl_cons, h]; exact h'⟩

theorem flagFold_loaded (kvs : List (Key × Val)) (s : St) : (kvs.foldl flagOne s).loaded = s.loaded := by
  obtain ⟨f, h⟩ := flagFold_frame kvs s; rw [h]

theorem flagOne_keeps (s : St) (kv : Key × Val) (k : Key) (v : Val) (h : s.flags k = some v) :
    (flagOne s kv).flags k = some v := by
  unfold flagOne
  split
  · exact h
  · rename_i hn
    simp only [setK]
    split
    · rename_i hk; subst hk; simp [h] at hn
    · exact h

theorem flagFold_keeps (kvs : List (Key × Val)) (s : St) (k : Key) (v : Val) (h : s.flags k = some v) :
    (kvs.foldl flagOne s).flags k = some v :=
  kvs.foldlRecOn flagOne h fun s h kv _ => flagOne_keeps s kv k v h

/-- `s'` comes after `s`: flag values and declarations present in `s` are still there, and whatever else is declared
    has a valid key -/
structure Later (ki : KeyInfo) (s s' : St) : Prop where
  flags : ∀ k v, s.flags k = some v → s'.flags k = some v
  decl : ∀ k d, s.decl k = some d → s'.decl k = some d
  valid : ∀ k, (s'.decl k).isSome → (s.decl k).isSome ∨ ki.valid k = true

theorem Later.of_eq {ki : KeyInfo} {s s' : St} (hf : s'.flags = s.flags) (hd : s'.decl = s.decl) : Later ki s s' :=
  ⟨fun _ _ h => hf ▸ h, fun _ _ h => hd ▸ h, fun _ h => .inl (hd ▸ h)⟩

theorem Later.trans {ki : KeyInfo} {s t u : St} (a : Later ki s t) (b : Later ki t u) : Later ki s u :=
  ⟨fun k v h => b.flags k v (a.flags k v h), fun k d h => b.decl k d (a.decl k d h),
   fun k h => (b.valid k h).elim (a.valid k) .inr⟩

theorem Later.declare {ki : KeyInfo} {s : St} {k : Key} (d : Option Val) (hv : ki.valid k = true)
    (hn : s.decl k = none) : Later ki s { s with decl := fun j => if j = k then some d else s.decl j } := by
  refine ⟨fun _ _ h => h, fun j e h => ?_, fun j h => ?_⟩ <;> by_cases e : j = k
  · rw [e, hn] at h; cases h
  · simpa only [if_neg e] using h
  · exact .inr (e ▸ hv)
  · exact .inl (by simpa only [if_neg e] using h)

theorem Later.loadDict (ki : KeyInfo) (s : St) (kvs : List (Key × Val)) (o a : Bool) :
    Later ki s (loadDict s kvs o a) :=
  .of_eq (loadDict_flags kvs s o a) (loadDict_decl kvs s o a)

theorem run_later (ki : KeyInfo) (ops : List Op) (s : St) : Later ki s (run ki s ops).1 := by
  induction s, ops using run.induct (ki := ki) (motive_1 := fun s o => Later ki s (step ki s o).1) with
  -- `declare`: invalid key, key already declared, new key
  | case1 | case2 => simp only [step, *, ↓reduceIte]; exact .of_eq rfl rfl
  | case3 s k d hv hd =>
    rw [step, if_neg hv, if_neg hd]
    exact .declare d (by simpa using hv) (by simpa using hd)
  -- `load`
  | case4 s kvs o a => exact .loadDict ki s kvs o a
  -- `flagValues`
  | case5 s kvs =>
    obtain ⟨f, h⟩ := flagFold_frame kvs s
    have hd : (step ki s (.flagValues kvs)).1.decl = s.decl := by simp only [step, h]
    exact ⟨flagFold_keeps kvs s, fun _ _ => (hd ▸ ·), fun _ h => .inl (hd ▸ h)⟩
  -- `reset`
  | case6 s => rw [step_reset]; exact .of_eq rfl rfl
  -- `configFile`, `setattr`, no operation
  | case7 | case8 | case10 => exact .of_eq rfl rfl
  -- `saveRestore`: the inline values, the wrapped operations, the restore
  | case9 s cfg inner _ _ ih => exact ((Later.loadDict ki s cfg true false).trans ih).trans (.of_eq rfl rfl)
  | case11 _ _ _ _ ih ih' => exact ih.trans ih'

/-- A flag value, once given, is what every later state holds for that key (the first one wins:
    `setdefault`), whatever operations follow — loads, resets, nested save_and_restore. -/
theorem c20_flag_first_wins_forever (ki : KeyInfo) (k : Key) (v : Val) :
    ∀ (ops : List Op) (s : St), s.flags k = some v → (run ki s ops).1.flags k = some v :=
  fun ops s => (run_later ki ops s).flags k v

/-- Declarations are never removed or changed (keys cannot be redeclared). -/
theorem c20_decl_monotone (ki : KeyInfo) (k : Key) (d : Option Val) :
    ∀ (ops : List Op) (s : St), s.decl k = some d → (run ki s ops).1.decl k = some d :=
  fun ops s => (run_later ki ops s).decl k d

/-- For declared keys, `key in conf`, item access, attribute access, the value holder and the
    `_asdict()` snapshot agree, in every state reachable by any operation sequence — attribute access
    under the hypothesis that the key is not also the name of an attribute of the class (known finding C20-attr-method-name:
    without it the statement is false, see `c20_attr_view_counterexample`). -/
theorem c20_views_agree (ki : KeyInfo) (ops : List Op) (k : Key)
    (hd : ((run ki {} ops).1.decl k).isSome) :
    let s := (run ki {} ops).1
    (contains s k = true ↔ ∃ v, getitem s k = .val v) ∧
    (∀ v, getitem s k = .val v ↔ asdict s k = some v) ∧
    holder s k = some (getitem s k) ∧
    (ki.method k = false → getattr ki s k = getitem s k) := by
  intro s
  have hv : ki.valid k = true := ((run_later ki ops {}).valid k hd).resolve_left nofun
  obtain ⟨d, h1⟩ : ∃ d, s.decl k = some d := Option.isSome_iff_exists.mp hd
  refine ⟨?_, ?_, by rw [holder, h1], fun hm => by simp [getattr, hm, hv]⟩
  all_goals
    cases h2 : s.flags k <;> cases h3 : s.loaded k <;> cases d <;> simp [contains, getitem, asdict, h1, h2, h3]

/-- non-vacuity of `c20_views_agree`: a reachable state with a declared, loaded and flagged key -/
example : ((run ⟨fun _ => true, fun _ => false⟩ {} [.declare 0 none, .load [(0, 1)] true false,
    .flagValues [(0, 2)]]).1.decl 0).isSome = true := by decide

/-- known finding C20-attr-method-name: a declared key named like a method of the class is not readable by attribute. -/
theorem c20_attr_view_counterexample :
    let ki : KeyInfo := ⟨fun _ => true, fun k => k == 3⟩
    let s := (run ki {} [.declare 3 (some 1)]).1
    getitem s 3 = .val 1 ∧ getattr ki s 3 = .method := by decide

theorem loadOne_loaded (s : St) (o a : Bool) (kv : Key × Val) (k : Key) :
    (loadOne s o a kv).loaded k = if skips s o a kv.1 = false ∧ k = kv.1 then some kv.2 else s.loaded k := by
  rw [loadOne_eq]
  cases skips s o a kv.1 <;> simp [setK]

/-- whether a pair for `k` is skipped depends only on the declaration and the value of `k`, so on nothing that a
    skipped pair or a pair for another key changes -/
theorem loadDict_skips (kvs : List (Key × Val)) (s : St) (o a : Bool) (k : Key)
    (h : ∀ kv ∈ kvs, kv.1 = k → skips s o a k = true) : (loadDict s kvs o a).loaded k = s.loaded k := by
  induction kvs generalizing s with
  | nil => rfl
  | cons kv kvs ih =>
    have h1 : (loadOne s o a kv).loaded k = s.loaded k := by
      rw [loadOne_loaded, if_neg]
      rintro ⟨hs, rfl⟩
      cases (h kv List.mem_cons_self rfl).symm.trans hs
    rw [loadDict_cons, ih, h1]
    unfold skips
    rw [h1, loadOne_decl]
    exact fun x hx => h x (List.mem_cons_of_mem _ hx)

/-- `_override=True`: a later load overrides earlier ones (for keys that are declared, or when
    undeclared keys are explicitly allowed). The dictionary has distinct keys. -/
theorem c20_load_override (ki : KeyInfo) (s : St) (kvs : List (Key × Val)) (a : Bool) (k : Key) (v : Val)
    (hnd : (kvs.map Prod.fst).Nodup) (hmem : (k, v) ∈ kvs) (hok : (s.decl k).isSome ∨ a = true) :
    (step ki s (.load kvs true a)).1.loaded k = some v := by
  simp only [step]
  induction kvs generalizing s with
  | nil => cases hmem
  | cons kv kvs ih =>
    rw [List.map_cons, List.nodup_cons] at hnd
    rw [loadDict_cons]
    rcases List.mem_cons.mp hmem with rfl | hm
    · -- `(k, v)` is not skipped, and the pairs after it are for other keys
      have hs : skips s true a k = false := by
        rcases hok with hd | rfl
        · simp [skips, Option.isSome_iff_ne_none.mp hd]
        · simp [skips]
      rw [loadDict_skips kvs _ true a k fun x hx e => absurd (List.mem_map.mpr ⟨x, hx, e⟩) hnd.1,
        loadOne_loaded, if_pos ⟨hs, rfl⟩]
    · exact ih _ hnd.2 hm (by rwa [loadOne_decl])

/-- `_override=False`: an already loaded value is kept. -/
theorem c20_load_no_override_keeps (ki : KeyInfo) (s : St) (kvs : List (Key × Val)) (a : Bool) (k : Key) (w : Val)
    (h : s.loaded k = some w) : (step ki s (.load kvs false a)).1.loaded k = some w := by
  simp only [step]
  rw [loadDict_skips kvs s false a k fun _ _ _ => by simp [skips, h], h]

/-- Undeclared keys are never readable through any view. -/
theorem c20_undeclared_never_readable (ki : KeyInfo) (s : St) (k : Key) (h : s.decl k = none) :
    getitem s k = .undeclared ∧ contains s k = false ∧ holder s k = none ∧ (∀ v, getattr ki s k ≠ .val v) := by
  refine ⟨by simp [getitem, h], by simp [contains, h], by simp [holder, h], fun v => ?_⟩
  cases hm : ki.method k <;> cases hv : ki.valid k <;> simp [getattr, getitem, hm, hv, h]

/-- Undeclared keys are not loaded unless `_allow_undeclared`. -/
theorem c20_undeclared_not_loaded_unless_allowed (ki : KeyInfo) (s : St) (kvs : List (Key × Val)) (o : Bool) (k : Key)
    (h : s.decl k = none) : (step ki s (.load kvs o false)).1.loaded k = s.loaded k := by
  exact loadDict_skips kvs s o false k fun _ _ _ => by simp [skips, h]

/-- `save_and_restore` restores exactly the loaded values present at call time — whatever the inline
    values and the wrapped function do (loads, resets, nested wrappers), and also when it raises. -/
theorem c20_save_restore_exact (ki : KeyInfo) (s : St) (cfg : List (Key × Val)) (inner : List Op) (raises : Bool) :
    (step ki s (.saveRestore cfg inner raises)).1.loaded = s.loaded := by
  simp only [step]

/-- `reset` drops the loaded values but neither flags nor declarations; with `--config-file` the loaded values are
    afterwards exactly what loading that file into an empty configuration gives - on the first reset and on every
    later one. -/
theorem c20_reset_drops_loaded_keeps_flags (ki : KeyInfo) (s : St) :
    let s' := (step ki s .reset).1
    (s.file = none → ∀ k, s'.loaded k = none) ∧
    (∀ kvs, s.file = some kvs → s'.loaded = (loadDict { s with loaded := fun _ => none } kvs true true).loaded) ∧
    s'.flags = s.flags ∧ s'.decl = s.decl ∧ s'.file = s.file := by
  rw [step_reset]
  exact ⟨fun h k => by simp only [h], fun kvs h => by simp only [h], rfl, rfl, rfl⟩

/-- resetting twice is resetting once -/
theorem c20_reset_idempotent (ki : KeyInfo) (s : St) :
    (step ki (step ki s .reset).1 .reset).1.loaded = (step ki s .reset).1.loaded := by
  rw [step_reset, step_reset]

/-- A declared key cannot be redeclared: the state is unchanged and the caller gets an error. -/
theorem c20_no_redeclare (ki : KeyInfo) (s : St) (k : Key) (d : Option Val) (h : (s.decl k).isSome) :
    (step ki s (.declare k d)).1 = s ∧
    ((step ki s (.declare k d)).2 = [(.alreadyDeclared, s)] ∨ (step ki s (.declare k d)).2 = [(.invalidKey, s)]) := by
  cases hv : ki.valid k <;> simp [step, hv, h]

/-- Attribute assignment never changes a configuration value. -/
theorem c20_no_setattr (ki : KeyInfo) (s : St) (k : Key) (v : Val) :
    step ki s (.setattr k v) = (s, [(.attributeError, s)]) := by
  simp only [step]

end OpenHTF.Conf
