import OpenHTF.Model.TestObject
import OpenHTF.Model.TestObjectConc
import OpenHTF.Proofs.C08
import OpenHTF.Proofs.Lemmas.Lts
/-
C09 — execute() hands the record to every callback exactly once; the Test object is deregistered
afterwards and refuses overlapping execute() calls.
Three parts: the callbacks of a run (`Plugs`), one Test object over consecutive execute() calls (`TestObject`), several
threads calling execute() on one Test object (`TestObjectConc`).
-/
namespace OpenHTF.Plugs
open OpenHTF.Exec

def NoCb (evs : List Ev) : Prop := ∀ e ∈ evs, isCallback e = false

theorem NoCb.append {a b : List Ev} (ha : NoCb a) (hb : NoCb b) : NoCb (a ++ b) :=
  List.forall_mem_append.2 ⟨ha, hb⟩

theorem tearDown_noCb (s : PSt) (h : NoCb s.events) : NoCb (tearDownPlugs s).events :=
  h.append (List.forall_mem_map.2 fun _ _ => rfl)

/-- C09: every registered output callback is called exactly once, in registration order, after
    everything else of the run — whichever of them raise (`r.callbacks` only contributes its length) -/
theorem c09_callbacks_once_in_order (cfg : Cfg) (r : Run) :
    ∃ before, (execute cfg r).events = before ++ (List.range r.callbacks.length).map Ev.callback ∧ NoCb before := by
  -- neither a plug construction nor an inert event is a callback
  obtain ⟨p, st, h, e⟩ := execute_finishes cfg r (fun p => NoCb p.events)
    (h0 := fun _ h => nomatch h) (hctor := fun s c h _ => h.append (List.forall_mem_singleton.2 rfl))
    (happ := fun p es hes h => h.append fun e he => by cases e <;> first | rfl | exact nomatch hes _ he)
  rw [e]; exact ⟨_, rfl, tearDown_noCb _ h⟩

/-- C09: raising callbacks change nothing about the run -/
theorem c09_raising_callbacks_do_not_matter (cfg : Cfg) (r : Run) (cbs : List Bool) (h : cbs.length = r.callbacks.length) :
    execute cfg { r with callbacks := cbs } = execute cfg r := by
  simp only [execute, runStart, finishRun, h]

/-- C09: execute() returns True iff the outcome is PASS -/
theorem c09_returns_true_iff_pass (cfg : Cfg) (r : Run) :
    (execute cfg r).returned = true ↔ (execute cfg r).outcome = .pass := by
  unfold execute
  simp only
  split
  · simp [finishRun]
  · split <;> simp [finishRun]

end OpenHTF.Plugs

namespace OpenHTF.TestObject

/-- handlers and registration track "an execute is in progress" -/
def Inv (s : TS) : Prop := s.handlers = (if s.running then 1 else 0) ∧ s.registered = s.running

theorem inv_step (s : TS) (o : Op) (h : Inv s) : Inv (step s o).1 := by
  cases o <;> simp only [step] <;> split <;> simp_all [Inv]

theorem inv_run : ∀ (ops : List Op) (s : TS), Inv s → Inv (run s ops).1
  | [], s, h => h
  | o :: os, s, h => by simp only [run]; exact inv_run os _ (inv_step s o h)

/-- C09: after any history of repeated / overlapping execute() calls on one Test object: whenever no
    execute is in progress the Test holds no executor, is not registered for SIGINT and its record log
    handler is removed (so it can be executed again); while one is in progress exactly one handler is
    attached. -/
theorem c09_deregistered_after (ops : List Op) :
    let s := (run {} ops).1
    (s.running = false → s.registered = false ∧ s.handlers = 0) ∧ (s.running = true → s.handlers = 1) := by
  obtain ⟨h1, h2⟩ := inv_run ops {} (by simp [Inv])
  constructor <;> intro hr <;> simp_all

/-- C09: an execute() overlapping a running one is refused and changes nothing -/
theorem c09_overlap_refused (s : TS) (h : s.running = true) : step s .begin = (s, .refused) := by
  simp [step, h]

/-- C09: and after the running one returned the Test can be executed again -/
theorem c09_reexecutable (s : TS) (h : s.running = true) : (step (step s .finish).1 .begin).2 = .started := by
  simp [step, h]

example : (run {} [.begin, .begin, .finish, .begin, .finish]).2 = [.started, .refused, .returned, .started, .returned] := by decide

end OpenHTF.TestObject

namespace OpenHTF.TestObjectConc

/-- the lock and the executor slot agree with the program counters -/
structure Inv (s : S) : Prop where
  lockOwner : ∀ t, s.lock = some t ↔ (s.pc t = .inLock ∨ s.pc t = .creating ∨ s.pc t = .started)
  execOwner : ∀ t, s.exec = some t ↔ (s.pc t = .started ∨ s.pc t = .running)
  creatingFree : ∀ t, s.pc t = .creating → s.exec = none
  liveCount : s.live = (if s.exec.isSome then 1 else 0)
  maxOne : s.maxLive ≤ 1

theorem inv_init : Inv {} := by
  constructor <;> simp

theorem inv_step (s s' : S) (a : Act) (h : Inv s) (hs : step s a = some s') : Inv s' := by
  obtain ⟨h1, h2, h3, h4, h5⟩ := h
  -- The five fields as one goal about a thread `j`: what holds of `j` afterwards follows from what held of `j` and of
  -- the thread `t` that moves. The quantified fields are instantiated at these two by hand, which spares `grind` the
  -- search for instances; one call per action then does it.
  suffices h : ∀ j, _ ∧ _ ∧ _ ∧ _ ∧ _ from
    ⟨fun j => (h j).1, fun j => (h j).2.1, fun j => (h j).2.2.1, (h 0).2.2.2.1, (h 0).2.2.2.2⟩
  intro j
  have j1 := h1 j; have j2 := h2 j; have j3 := h3 j
  cases a <;> simp only [step, Option.ite_none_right_eq_some, Option.some.injEq] at hs <;> obtain ⟨hc, hs⟩ := hs <;>
    rename_i t <;> have t1 := h1 t <;> have t2 := h2 t <;> have t3 := h3 t <;> clear h1 h2 h3
  case check =>
    split at hs <;> cases hs <;> simp only [upd, Option.not_isSome_iff_eq_none] at * <;> grind
  all_goals
    subst hs
    simp only [upd]
    grind

theorem reach_inv {as : List Act} {s : S} (hr : run {} as = some s) : Inv s :=
  Lts.run_induction step run (fun _ => rfl) (fun s a as => by rw [run]; cases step s a <;> rfl) Inv inv_step as {} s
    inv_init hr

/-- a thread whose executor is alive is the one `self._executor` belongs to -/
theorem Inv.exec_of_active {s : S} (h : Inv s) {t : Nat} (ht : active s t = true) : s.exec = some t :=
  (h.execOwner t).2 (by simpa [active] using ht)

/-- C09 (overlapping execute() from several threads): under EVERY interleaving of any number of threads calling
    execute() on one Test object, at most one executor of that Test is alive at a time: two threads are never both
    between creating their executor and clearing it. -/
theorem c09_at_most_one_execution_at_a_time (as : List Act) (s : S) (hr : run {} as = some s) (t u : Nat)
    (ht : active s t = true) (hu : active s u = true) : t = u := by
  have h := reach_inv hr
  exact Option.some.inj ((h.exec_of_active ht).symm.trans (h.exec_of_active hu))

/-- … and the ghost high-water mark of live executors never exceeds one -/
theorem c09_live_executors_le_one (as : List Act) (s : S) (hr : run {} as = some s) : s.maxLive ≤ 1 ∧ s.live ≤ 1 := by
  refine ⟨(reach_inv hr).maxOne, ?_⟩
  rw [(reach_inv hr).liveCount]; split <;> omega

/-- C09: a thread that looks at the executor slot while another thread's executor is alive is refused, and the
    refusal changes nothing but releasing the lock -/
theorem c09_concurrent_overlap_refused (s : S) (t u : Nat) (hu : active s u = true) (ht : s.pc t = .inLock)
    (h : Inv s) : step s (.check t) =
      some { s with pc := upd s.pc t .idle, lock := none, refused := s.refused + 1 } := by
  simp [step, ht, h.exec_of_active hu]

/-- the check-before-the-lock variant is NOT safe: two threads both pass the check, then both create an executor -/
theorem unlocked_check_lets_two_executions_overlap :
    ∃ s, urun {} [.check 0, .check 1, .acquire 0, .create 0, .release 0, .acquire 1, .create 1] = some s ∧ s.maxLive = 2 := by
  refine ⟨_, rfl, ?_⟩
  decide

example : ∃ s, run {} [.enter 0, .enter 1, .acquire 0, .check 0, .create 0, .release 0, .acquire 1, .check 1, .finish 0,
    .enter 1, .acquire 1, .check 1, .create 1, .release 1, .finish 1] = some s ∧ s.refused = 1 ∧ s.completed = 2 := by
  refine ⟨_, rfl, ?_⟩
  decide

end OpenHTF.TestObjectConc
