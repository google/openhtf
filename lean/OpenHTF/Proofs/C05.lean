import OpenHTF.Spec.Exec
import OpenHTF.Proofs.Lemmas.ExecState
/-
C05 — phase result → outcome mapping, repeat limit, run_if. For every behaviour oracle, every
combination of options, every position (in/out of subtest) and every executor state.
-/
namespace OpenHTF.Exec

/-- the default repeat limit in the source is 3 (regenerated constant) -/
theorem c05_default_repeat_limit : Gen.c05_defaultRepeatLimit = 3 := by decide

def diagsOf (ds : List DiagRun) : List (Nat × Bool) :=
  ds.flatMap (fun d => match d with | .results rs => rs | .raises => [])

theorem foldl_diagStep (ds : List DiagRun) (acc : Res × List (Nat × Bool) × Nat) :
    ds.foldl diagStep acc =
      (if acc.1.isTerminal || !ds.any (· == .raises) then acc.1 else .exc false,
       acc.2.1 ++ diagsOf ds, acc.2.2 + ds.length) := by
  induction ds generalizing acc with
  | nil => simp [diagsOf]
  | cons d ds ih =>
    rw [List.foldl_cons, ih]
    have t : (Res.exc false).isTerminal = true := rfl
    cases d with
    | results rs => simp [diagStep, diagsOf, Nat.add_assoc, Nat.add_comm 1]
    | raises => cases h : acc.1.isTerminal <;> simp [diagStep, diagsOf, h, t, Nat.add_assoc, Nat.add_comm 1]

theorem runDiagnosers_eq (res : Res) (ds : List DiagRun) :
    runDiagnosers res ds =
      if res == .pr .rep || res == .pr .skip then (res, [], 0)
      else (if res.isTerminal || !ds.any (· == .raises) then res else .exc false, diagsOf ds, ds.length) := by
  simp [runDiagnosers, foldl_diagStep]

theorem filter_map_isEmpty (rs : List (Nat × Bool)) :
    ((rs.filter (·.2)).map (·.1)).isEmpty = !rs.any (·.2) := by
  induction rs with
  | nil => rfl
  | cons r rs ih => cases h : r.2 <;> simp [h, ih]

theorem diagsOf_any (ds : List DiagRun) :
    (diagsOf ds).any (·.2) = ds.any (fun d => match d with | .results rs => rs.any (·.2) | .raises => false) := by
  rw [diagsOf, List.any_flatMap]
  congr; funext d; cases d <;> rfl

theorem runDiagnosers_fst (res : Res) (ds : List DiagRun) :
    (runDiagnosers res ds).1 =
      if res == .pr .rep || res == .pr .skip || res.isTerminal || !ds.any (· == .raises) then res else .exc false := by
  rw [runDiagnosers_eq]; cases res == .pr .rep || res == .pr .skip <;> rfl

theorem runDiagnosers_noFail (res : Res) (ds : List DiagRun) :
    (((runDiagnosers res ds).2.1.filter (·.2)).map (·.1)).isEmpty =
      (res == .pr .rep || res == .pr .skip ||
        !ds.any (fun d => match d with | .results rs => rs.any (·.2) | .raises => false)) := by
  rw [filter_map_isEmpty, runDiagnosers_eq, ← diagsOf_any]; cases res == .pr .rep || res == .pr .skip <;> rfl

theorem prediagnosis_skipped (cfg : Cfg) (o : Opts) (res : Res) (hitLimit : Bool) (meas : List MO) :
    ((prediagnosis cfg o res hitLimit meas).2 == .pr .rep || (prediagnosis cfg o res hitLimit meas).2 == .pr .skip) =
      (res == .pr .rep || res == .pr .skip) := by
  grind [prediagnosis]

/-- Record outcome, recorded result and effective result (what `_execute_phase_once` returns) of one invocation as a
    priority list: `res` the phase thread's result, `praise` a PARTIALLY_SET measurement whose validation raises,
    `mp` = `_measurements_pass`, `anyRaise` a diagnoser that raises, `failDiag` a failure diagnosis among those returned. -/
def absInvocation (isLast stop : Bool) (res : Res) (praise mp anyRaise failDiag : Bool) : PO × Res × Res :=
  match res with
  | .pr r =>
    if r == .stop then (.error, res, res)
    else if praise then (.error, .exc false, if r == .rep && isLast then .pr .stop else .exc false)
    else if r == .rep then (if isLast then (.error, res, .pr .stop) else (.skip, res, res))
    else if r == .skip then (.skip, res, res)
    else if r == .cont && !mp && stop then (.error, .pr .stop, .pr .stop)
    else if anyRaise then (.error, .exc false, .exc false)
    else (if r != .cont || !mp || failDiag then .fail else .pass, res, res)
  | _ => (.error, res, res)

/-- the bridge: what `finalizeInvocation` computes of an invocation is the table `absInvocation` of five facts about it -/
theorem finalizeInvocation_abs (cfg : Cfg) (o : Opts) (inSub isLast : Bool) (inv : Inv) :
    let out := finalizeInvocation cfg o inSub isLast inv
    let a := absInvocation isLast o.stopOnMeasFail (threadResult inSub inv.raw) (inv.meas.any (· == .partialRaise))
      (measurementsPass cfg inv.meas) (inv.diags.any (· == .raises))
      (inv.diags.any (fun d => match d with | .results rs => rs.any (·.2) | .raises => false))
    out.outcome = a.1 ∧ out.recResult = a.2.1 ∧ out.effective = a.2.2 := by
  dsimp only
  unfold finalizeInvocation finalizeMeasurements prediagnosis postdiagnosis
  extract_lets r0 hitLimit r1 pre dg failDiags outcome
  simp only [outcome, failDiags, dg, runDiagnosers_fst, runDiagnosers_noFail]
  -- what is left mentions `inv`, `cfg`, `o` only through the facts: a closed statement over `Res` and `Bool`
  revert r0
  generalize threadResult inSub inv.raw = res, inv.meas.any (· == .partialRaise) = praise,
    measurementsPass cfg inv.meas = mp, inv.diags.any (· == .raises) = anyRaise,
    inv.diags.any (fun d => match d with | .results rs => rs.any (·.2) | .raises => false) = failDiag,
    o.stopOnMeasFail = stop
  revert isLast stop praise mp anyRaise failDiag
  rcases res with (_|_|_|_|_|_) | (_|_) | _ <;> decide +kernel

theorem absInvocation_error_iff_terminal (res : Res) : ∀ isLast stop praise mp anyRaise failDiag,
    (absInvocation isLast stop res praise mp anyRaise failDiag).1 = .error ↔
    (absInvocation isLast stop res praise mp anyRaise failDiag).2.2.isTerminal = true := by
  rcases res with (_|_|_|_|_|_) | (_|_) | _ <;> decide +kernel

theorem absInvocation_pass (res : Res) : ∀ isLast stop praise mp anyRaise failDiag,
    (absInvocation isLast stop res praise mp anyRaise failDiag).1 = .pass →
    res = .pr .cont ∧ mp = true ∧ (anyRaise || failDiag) = false := by
  rcases res with (_|_|_|_|_|_) | (_|_) | _ <;> decide +kernel

theorem threadResult_cont (raw : Raw) : ∀ inSub, threadResult inSub raw = .pr .cont → raw = .ret .cont := by
  rcases raw with (_|_|_|_|_|_) | _ | (_|_) | _ <;> decide

theorem recResult_of_effective_timeout (cfg : Cfg) (o : Opts) (inSub isLast : Bool) (inv : Inv)
    (h : (finalizeInvocation cfg o inSub isLast inv).effective = .timeout) :
    (finalizeInvocation cfg o inSub isLast inv).recResult = .timeout := by
  unfold finalizeInvocation at *
  simp only at *
  split at h
  · simp at h
  · exact h

/-- all diagnosers run exactly once per invocation that was neither skipped nor repeated — also when
    one of them raises -/
theorem c05_diagnosers_all_run_once (cfg : Cfg) (o : Opts) (inSub isLast : Bool) (inv : Inv) :
    (finalizeInvocation cfg o inSub isLast inv).diagsRun = Spec.diagnosersRun inSub inv := by
  unfold finalizeInvocation Spec.diagnosersRun
  simp only [runDiagnosers_eq, prediagnosis_skipped]
  split <;> rfl

/-- Each invocation yields a record whose outcome is the documented function of what happened. -/
theorem c05_outcome_table (cfg : Cfg) (o : Opts) (inSub isLast : Bool) (inv : Inv) :
    (finalizeInvocation cfg o inSub isLast inv).outcome = Spec.phaseOutcome cfg o inSub isLast inv := by
  rw [(finalizeInvocation_abs cfg o inSub isLast inv).1]
  unfold Spec.phaseOutcome
  generalize inv.raw = raw, inv.meas.any (· == .partialRaise) = praise, measurementsPass cfg inv.meas = mp,
    inv.diags.any (· == .raises) = anyRaise,
    inv.diags.any (fun d => match d with | .results rs => rs.any (·.2) | .raises => false) = failDiag,
    o.stopOnMeasFail = stop
  revert inSub isLast stop praise mp anyRaise failDiag
  rcases raw with (_|_|_|_|_|_) | _ | (_|_) | _ <;> decide +kernel

/-- the record outcome is ERROR exactly when the executor sees a terminal result -/
theorem c05_error_iff_terminal (cfg : Cfg) (o : Opts) (inSub isLast : Bool) (inv : Inv) :
    (finalizeInvocation cfg o inSub isLast inv).outcome = .error ↔
    (finalizeInvocation cfg o inSub isLast inv).effective.isTerminal = true := by
  obtain ⟨h1, -, h3⟩ := finalizeInvocation_abs cfg o inSub isLast inv
  rw [h1, h3]
  exact absInvocation_error_iff_terminal ..

/-- an ERROR record is the record of a timeout, or the effective result is terminal for another reason (the form
    `Attempts.errors` keeps along the loop) -/
theorem error_record (cfg : Cfg) (o : Opts) (inSub isLast : Bool) (inv : Inv)
    (h : (finalizeInvocation cfg o inSub isLast inv).outcome = .error) :
    (finalizeInvocation cfg o inSub isLast inv).recResult = .timeout ∨
    ((finalizeInvocation cfg o inSub isLast inv).effective.isTerminal = true ∧
      (finalizeInvocation cfg o inSub isLast inv).effective ≠ .timeout) :=
  (Decidable.em _).imp (recResult_of_effective_timeout cfg o inSub isLast inv) fun hn => ⟨(c05_error_iff_terminal cfg o inSub isLast inv).mp h, hn⟩

/-- a body is only re-invoked for REPEAT, repeat_on_timeout after a timeout, or (non-terminal outcome)
    force_repeat / repeat_on_measurement_fail after a FAIL record -/
theorem c05_reinvoked_only_for (o : Opts) (eff : Res) (phases : List PhaseRec) (h : shouldRepeat o eff phases = true) :
    eff = .pr .rep ∨ (eff = .timeout ∧ o.repeatOnTimeout = true) ∨
    (eff.isTerminal = false ∧ (o.forceRepeat = true ∨
      (o.repeatOnMeasFail = true ∧ ∃ r, phases.getLast? = some r ∧ r.outcome = .fail))) := by
  unfold shouldRepeat at h
  grind

/-- a false run_if: the body is never invoked and no record is written -/
theorem c05_runif_false_no_body_no_record (cfg : Cfg) (p : Phase) (sub : Option Nat) (isLast : Bool) (st : St)
    (f : Nat → Option Bool) (hri : p.opts.runIf = some f) (hf : f (count st.runIfCalls p.id) = some false) :
    let r := executePhaseOnce cfg p sub isLast st
    r.1.phases = st.phases ∧ r.1.bodyCalls = st.bodyCalls ∧ r.2 = .pr .skip ∧
    r.1.events = st.events ++ [.runIf p.id (count st.runIfCalls p.id)] := by
  simp [executePhaseOnce, hri, hf]

/-- What the invocation loop of phase `p` - or one attempt of it - has done from `a` to `b` with effective result `res`:
    `recs` are the records written, one per body call, all of `p`; an ERROR record among them is a timeout, unless
    `res` is terminal for another reason. -/
structure Attempts (p : Phase) (a b : St) (res : Res) (recs : List PhaseRec) : Prop where
  last : b.last = a.last
  ext : Ext a b
  runIf : GrowsRI a b
  phases : b.phases = a.phases ++ recs
  bodyCalls : b.bodyCalls = a.bodyCalls ++ List.replicate recs.length p.id
  ids : ∀ r ∈ recs, r.id = p.id
  errors : ∀ r ∈ recs, r.outcome = .error → r.result = .timeout ∨ (res.isTerminal = true ∧ res ≠ .timeout)

namespace Attempts
variable {p : Phase} {a b c : St} {res res' : Res} {recs recs' : List PhaseRec}

theorem later (h : Attempts p a b res recs) : Later a b :=
  ⟨⟨recs, h.phases⟩, h.runIf, h.ext, by rw [h.last]; exact id⟩

theorem nil (hl : b.last = a.last) (he : Ext a b) (hr : GrowsRI a b) (hp : b.phases = a.phases) (hb : b.bodyCalls = a.bodyCalls) :
    Attempts p a b res [] :=
  ⟨hl, he, hr, by simp [hp], by simp [hb], (fun _ h => nomatch h), fun _ h => (nomatch h)⟩

theorem refl (p : Phase) (a : St) (res : Res) : Attempts p a a res [] := nil rfl (.refl a) (.refl a) rfl rfl

/-- attempts compose as long as the earlier ones did not end the loop: a terminal result in between is a timeout -/
theorem trans (h1 : Attempts p a b res recs) (h2 : Attempts p b c res' recs') (hr : res.isTerminal = true → res = .timeout) :
    Attempts p a c res' (recs ++ recs') where
  last := h2.last.trans h1.last
  ext := h1.ext.trans h2.ext
  runIf := h1.runIf.trans h2.runIf
  phases := by rw [h2.phases, h1.phases, List.append_assoc]
  bodyCalls := by rw [h2.bodyCalls, h1.bodyCalls, List.append_assoc, List.length_append, List.replicate_append_replicate]
  ids r hm := (List.mem_append.mp hm).elim (h1.ids r) (h2.ids r)
  errors r hm he := (List.mem_append.mp hm).elim
    (fun h => .inl ((h1.errors r h he).resolve_right fun ht => ht.2 (hr ht.1))) (fun h => h2.errors r h he)

/-- attempts, then progress in which a terminal result of theirs is remembered, are progress -/
theorem progress (h : Attempts p a b res recs) (hbc : Progress b c) (ht : res.isTerminal = true → c.last.isSome = true) :
    Progress a c where
  toLater := h.later.trans hbc.toLater
  remembered x hx := h.last ▸ hbc.remembered x hx
  errors r hr he := (hbc.errors r hr he).elim
    (fun hm => (List.mem_append.mp (h.phases ▸ hm)).imp_right fun hm => (h.errors r hm he).imp_right fun t => ht t.1) .inr

end Attempts

/-- One attempt (`_execute_phase_once`): at most one record (none if `run_if` is false or raises); either way the phase
    is accounted for. -/
theorem once_spec (cfg : Cfg) (p : Phase) (sub : Option Nat) (isLast : Bool) (st : St) :
    let r := executePhaseOnce cfg p sub isLast st
    Acc r.1 p ∧ ∃ recs, Attempts p st r.1 r.2 recs ∧ recs.length ≤ 1 := by
  unfold executePhaseOnce
  extract_lets k s1 afterRunIf r      -- the model's own `let`s, named so that the proof can speak of them
  -- `run_if` first: its evaluation is logged (state `s1`), no record is written; a result of it (false, raised) ends the attempt
  have idle : (∀ res, Attempts p st afterRunIf.1 res []) ∧ (afterRunIf.2.isSome = true → Acc afterRunIf.1 p) := by
    have log : ∀ res, Attempts p st s1 res [] := fun _ => .nil rfl ⟨_, rfl, by simp [isExecEv]⟩ ⟨_, rfl⟩ rfl rfl
    unfold afterRunIf
    cases hri : p.opts.runIf with
    | none => exact ⟨.refl p st, nofun⟩
    | some f => dsimp only; split <;> exact ⟨log, fun _ => .inr (by simp [hri, s1])⟩
  obtain ⟨s, _ | res⟩ := afterRunIf
  · -- then the body, from the state `s` that `run_if` left: one record, ERROR as the invocation table says
    have events : ∀ n, ∀ e ∈ [Ev.body p.id (count s.bodyCalls p.id)] ++ (List.range n).map (Ev.diag p.id (count s.bodyCalls p.id)),
        isExecEv e = true := fun n =>
      List.forall_mem_append.2 ⟨List.forall_mem_singleton.2 rfl, List.forall_mem_map.2 fun _ _ => rfl⟩
    -- `idle` holds for every result; a non-terminal one makes the side condition of `trans` vacuous
    exact ⟨.inl ⟨_, List.mem_append_right _ List.mem_cons_self, rfl⟩, _,
      (idle.1 (.pr .cont)).trans
        { last := rfl, ext := ⟨_, rfl, events _⟩, runIf := .refl s, phases := rfl, bodyCalls := rfl, ids := by simp,
          errors := by simpa using error_record cfg p.opts sub.isSome isLast _ } nofun,
      Nat.le_refl 1⟩
  · exact ⟨idle.2 rfl, [], idle.1 res, Nat.zero_le 1⟩

theorem shouldRepeat_terminal {o : Opts} {eff : Res} {phases : List PhaseRec} (h : shouldRepeat o eff phases = true)
    (ht : eff.isTerminal = true) : eff = .timeout := by
  rcases c05_reinvoked_only_for o eff phases h with rfl | ⟨rfl, _⟩ | ⟨hn, _⟩
  · cases ht
  · rfl
  · rw [hn] at ht; cases ht

/-- the loop strings attempts together; it goes on after an ERROR record only for a timeout (`repeat_on_timeout`) -/
theorem loop_spec (cfg : Cfg) (p : Phase) (sub : Option Nat) (limit : Nat) : ∀ (fuel n : Nat) (st : St),
    let r := executePhaseLoop cfg p sub limit fuel n st
    ∃ recs, Attempts p st r.1 r.2 recs ∧ recs.length ≤ fuel ∧ (0 < fuel → Acc r.1 p)
  | 0, n, st => ⟨[], .refl p st _, Nat.le_refl 0, nofun⟩
  | fuel+1, n, st => by
    obtain ⟨acc, r1, a1, l1⟩ := once_spec cfg p sub (decide (n ≥ limit)) st
    simp only [executePhaseLoop]
    split
    · rename_i hrep
      simp only [Bool.and_eq_true] at hrep
      obtain ⟨r2, a2, l2, -⟩ := loop_spec cfg p sub limit fuel (n + 1) (executePhaseOnce cfg p sub (decide (n ≥ limit)) st).1
      exact ⟨r1 ++ r2, a1.trans a2 (shouldRepeat_terminal hrep.1.2), by simp; omega, fun _ => a2.later.acc acc⟩
    · exact ⟨r1, a1, by omega, fun _ => acc⟩

theorem repeatLimit_succ (cfg : Cfg) (o : Opts) (hc : 0 < cfg.defaultRepeatLimit) : ∃ k, repeatLimit cfg o = k + 1 := by
  refine ⟨repeatLimit cfg o - 1, ?_⟩
  unfold repeatLimit
  cases o.repeatLimit with
  | none => simp only; omega
  | some n => simp only; split <;> omega

theorem executePhase_spec (cfg : Cfg) (p : Phase) (sub : Option Nat) (st : St) :
    ∃ recs, Attempts p st (executePhase cfg p sub st).1 (executePhase cfg p sub st).2 recs ∧ recs.length ≤ repeatLimit cfg p.opts :=
  (loop_spec cfg p sub _ _ 1 st).imp fun _ h => ⟨h.1, h.2.1⟩

theorem executePhase_acc (cfg : Cfg) (hc : 0 < cfg.defaultRepeatLimit) (p : Phase) (sub : Option Nat) (st : St) :
    Acc (executePhase cfg p sub st).1 p := by
  obtain ⟨k, hk⟩ := repeatLimit_succ cfg p.opts hc
  obtain ⟨_, _, _, h⟩ := loop_spec cfg p sub (repeatLimit cfg p.opts) (repeatLimit cfg p.opts) 1 st
  exact h (by omega)

/-- Each invocation of a body yields exactly one record; a body is invoked at most repeat_limit times
    (default 3) per execution of its phase node. -/
theorem c05_one_record_per_invocation_at_most_limit (cfg : Cfg) (p : Phase) (sub : Option Nat) (st : St) :
    ∃ recs : List PhaseRec, (executePhase cfg p sub st).1.phases = st.phases ++ recs ∧
      (executePhase cfg p sub st).1.bodyCalls = st.bodyCalls ++ List.replicate recs.length p.id ∧
      recs.length ≤ repeatLimit cfg p.opts ∧ ∀ r ∈ recs, r.id = p.id := by
  obtain ⟨recs, a, l⟩ := executePhase_spec cfg p sub st
  exact ⟨recs, a.phases, a.bodyCalls, l, a.ids⟩

/-- For the whole invocation loop, whatever the options (force_repeat, repeat_on_measurement_fail with a FAIL record
    of an EARLIER phase in last position, ...): one false run_if ends the loop - it is evaluated once, the body is
    never invoked, no record is written and the executor sees SKIP. (False on the tree before the `fix:` commit
    d4399cb4: there the loop went on, re-evaluated run_if and could run the body.) -/
theorem c05_runif_false_ends_the_loop (cfg : Cfg) (hc : 0 < cfg.defaultRepeatLimit) (p : Phase) (sub : Option Nat) (st : St)
    (f : Nat → Option Bool) (hri : p.opts.runIf = some f) (hf : f (count st.runIfCalls p.id) = some false) :
    let r := executePhase cfg p sub st
    r.1.phases = st.phases ∧ r.1.bodyCalls = st.bodyCalls ∧ r.1.runIfCalls = st.runIfCalls ++ [p.id] ∧ r.2 = .pr .skip := by
  obtain ⟨k, hk⟩ := repeatLimit_succ cfg p.opts hc
  simp only [executePhase, hk, executePhaseLoop]
  have h1 := c05_runif_false_no_body_no_record cfg p sub (decide (1 ≥ k + 1)) st f hri hf
  have hlen : ¬ (st.phases.length < (executePhaseOnce cfg p sub (decide (1 ≥ k + 1)) st).1.phases.length) := by
    rw [h1.1]; omega
  simp only [hlen, decide_false, Bool.false_and, Bool.false_eq_true, if_false]
  refine ⟨h1.1, h1.2.1, ?_, h1.2.2.1⟩
  simp [executePhaseOnce, hri, hf]

/-- non-vacuity of the above: force_repeat, run_if false once and true afterwards - evaluated once, nothing run -/
example : (let p : Phase := { id := 7, opts := { forceRepeat := true, runIf := some (fun k => some (decide (k ≥ 1))) }, beh := fun _ => { raw := .ret .cont } }
    ((executePhase {} p none {}).1.runIfCalls, (executePhase {} p none {}).1.bodyCalls)) = ([7], []) := by decide

/-- non-vacuity: a phase that REPEATs twice and then passes is invoked three times with the default limit -/
example : ((executePhase {} { id := 7, beh := fun k => if k < 2 then { raw := .ret .rep } else { raw := .ret .cont } } none {}).1.phases.map
    (·.outcome)) = [.skip, .skip, .pass] := by decide

end OpenHTF.Exec
