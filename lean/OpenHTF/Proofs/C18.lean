import OpenHTF.Model.Subscribe
import OpenHTF.Proofs.Lemmas.Lts
/-
C18 — state subscriptions never lose an update. Every theorem is for all interleavings (any action
list the transition system accepts), any number of watchers and updaters.
-/
namespace OpenHTF.Subscribe

/-- the lock is held by an updater that has done its set-all step -/
def stage1 : Holder → Bool
  | .updater _ k => decide (1 ≤ k)
  | _ => false

/-- per-watcher invariant (with the global parts it refers to) -/
def WInv (s : S) (i : Nat) : Prop :=
  let w := s.ws i
  (2 ≤ w.pc → i ∈ s.members ∨ w.isSet = true) ∧
  (w.notifiedAfterSnap = true → w.isSet = true) ∧
  (w.pc < 3 → w.notifiedAfterSnap = false) ∧
  (s.holder = .watcher i true → i ∈ s.members) ∧
  (∀ b, s.holder = .watcher i b → w.pc = 0) ∧
  (stage1 s.holder = true → 2 ≤ w.pc → w.isSet = true) ∧
  -- a stale snapshot: the event is set, or an updater that changed the state still owes its set-all
  (w.pc = 3 → w.snap < s.version → w.isSet = true ∨ ∃ u, s.dirty u = true) ∧
  (w.pc = 0 ∨ w.pc = 2 ∨ w.pc = 3) ∧
  (w.pc = 3 → w.snap ≤ s.version)

def Inv (s : S) : Prop := ∀ i, WInv s i

theorem inv_init : Inv {} := by
  intro i; simp [WInv, stage1]

theorem inv_step (s s' : S) (a : Act) (h : Inv s) (hs : step s a = some s') : Inv s' := by
  intro j
  have hj := h j
  cases a
  case uMutate u =>
    simp only [step, Option.ite_none_left_eq_some, Option.some.injEq] at hs
    obtain ⟨hc, rfl⟩ := hs
    -- the updater that owes its set-all is `u` itself; `grind` does not find this witness
    have hd : ∃ v, updB s.dirty u true v = true := ⟨u, by simp [updB]⟩
    simp only [WInv] at hj ⊢
    grind
  all_goals obtain ⟨hc, rfl⟩ := Lts.guarded hs
  case wRel i | wSnap i =>
    simp only [WInv, stage1, updW] at hj ⊢
    grind
  all_goals
    simp only [WInv, stage1] at hj ⊢
    grind

theorem reach_inv {as : List Act} {s : S} (hr : run {} as = some s) : Inv s :=
  Lts.run_induction step run (fun _ => rfl) (fun _ _ _ => rfl) Inv inv_step as {} s inv_init hr

/-- C18 headline: under every interleaving, if the set-all step of a notification happens after a
    watcher took its snapshot, that watcher's event is set. -/
theorem c18_no_lost_update (as : List Act) (s : S) (hr : run {} as = some s) (i : Nat)
    (hn : (s.ws i).notifiedAfterSnap = true) : (s.ws i).isSet = true :=
  (reach_inv hr i).2.1 hn

/-- once set, an event stays set for its watcher (nothing in the protocol clears a handed-out event) -/
theorem c18_stays_set (s s' : S) (a : Act) (hs : step s a = some s') (i : Nat)
    (h : (s.ws i).isSet = true) : (s'.ws i).isSet = true := by
  cases a
  case uMutate =>
    simp only [step, Option.ite_none_left_eq_some, Option.some.injEq] at hs
    exact hs.2 ▸ h
  all_goals obtain ⟨_, rfl⟩ := Lts.guarded hs
  case wRel | wSnap => simp only [updW]; split <;> simp_all
  case uSetAll => simp [h]
  all_goals exact h

theorem c18_stays_set_run : ∀ (as : List Act) (s s' : S), run s as = some s' → ∀ i,
    (s.ws i).isSet = true → (s'.ws i).isSet = true :=
  fun as s s' hr i h => Lts.run_induction step run (fun _ => rfl) (fun _ _ _ => rfl) (fun s => (s.ws i).isSet = true)
    (fun s s' a h hs => c18_stays_set s s' a hs i h) as s s' h hr

/-- one notification wakes every watcher registered before it -/
theorem c18_one_notify_wakes_all_registered (as : List Act) (s s' : S) (u : Nat)
    (hr : run {} as = some s) (hs : step s (.uSetAll u) = some s') (i : Nat)
    (hreg : 2 ≤ (s.ws i).pc) : (s'.ws i).isSet = true := by
  obtain ⟨-, rfl⟩ := Lts.guarded hs
  -- registered and not yet notified, or notified already
  rcases (reach_inv hr i).1 hreg with h | h <;> simp [h]

/-- registration precedes the snapshot: a snapshot is only ever taken by a registered watcher, so every
    state change after the snapshot is also after the registration -/
theorem c18_snapshot_only_after_registration (s s' : S) (i : Nat) (hs : step s (.wSnap i) = some s') :
    (s.ws i).pc = 2 := by
  exact (Lts.guarded hs).1

/-- final-state clause: whenever no updater is between a state change and the completion of its
    notification, every watcher whose snapshot is older than the current state has its event set —
    so a watcher looping on snapshot-then-wait cannot stay blocked on a finished test and its last
    snapshot is the final state. -/
theorem c18_quiescent_stale_watchers_are_woken (as : List Act) (s : S) (hr : run {} as = some s)
    (hq : ∀ u, s.dirty u = false) (i : Nat) (h3 : (s.ws i).pc = 3) (hstale : (s.ws i).snap < s.version) :
    (s.ws i).isSet = true := by
  obtain ⟨-, -, -, -, -, -, hwoken, -⟩ := reach_inv hr i
  exact (hwoken h3 hstale).resolve_right fun ⟨u, hu⟩ => by simp [hq u] at hu

/-- a snapshot never shows a state newer than the current one, and a watcher that is not stale has the current one -/
theorem c18_snapshot_is_past_or_present (as : List Act) (s : S) (hr : run {} as = some s) (i : Nat)
    (h3 : (s.ws i).pc = 3) : (s.ws i).snap ≤ s.version := by
  obtain ⟨-, -, -, -, -, -, -, -, hsnap⟩ := reach_inv hr i
  exact hsnap h3

/-- non-vacuity: a concrete interleaving in which the notification lands between snapshot and wait -/
example : ∃ s, run {} [.wAcq 0, .wAdd 0, .wRel 0, .wSnap 0, .uMutate 0, .uAcq 0, .uSetAll 0, .uClear 0, .uRel 0] = some s ∧
    (s.ws 0).notifiedAfterSnap = true ∧ (s.ws 0).isSet = true ∧ (s.ws 0).snap < s.version := by
  refine ⟨_, rfl, ?_, ?_, ?_⟩ <;> decide

/-- the mutant "snapshot before registering" is not an execution of the model: the action is refused -/
example : run {} [.wSnap 0] = none := by decide

/-- what stands in front of a part that notifies does not matter: each of its changes is followed by that notification -/
theorem everyMutNotified_append (l r : List Ev) (hr : .notify ∈ r) : everyMutNotified (l ++ r) = everyMutNotified r := by
  induction l with
  | nil => rfl
  | cons e l ih => cases e <;> simp [everyMutNotified, ih, hr]

/-- every run of the executor ends with `_finalize`, whose last act is `notify_update`: so for EVERY
    history of TestState method calls that ends with finalize, each state change is followed by a
    notification (also the un-notified `stop_running_phase` of the abort path). -/
theorem c18_every_mutation_followed_by_notify (ms : List Method) :
    everyMutNotified (history (ms ++ [.finalize])) = true := by
  rw [history, List.flatMap_append, everyMutNotified_append _ _ (by decide)]
  rfl

/-- and every method except `stop_running_phase` and `attach` (neither is a change of status, running
    phase start/end, measurement value or log record) notifies by itself -/
theorem c18_methods_notify_themselves (m : Method) (h : m ≠ .stopRunningPhase) (h' : m ≠ .attach) :
    everyMutNotified (method m) = true := by
  cases m <;> first | decide | exact absurd rfl h | exact absurd rfl h'

end OpenHTF.Subscribe
